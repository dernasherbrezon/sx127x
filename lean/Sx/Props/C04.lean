import Sx.Lemmas.TxObs
import Sx.Lemmas.RunP
import Sx.Lemmas.TxSteps
import Sx.Lemmas.TxCovers
import Sx.Lemmas.IrqBits
/-
  C04 — FSK/OOK transmit writes exactly the framed packet and never overflows the FIFO.

  The statements are about the driver programs run against the *transmit environment* `txE`
  (Sx/Lemmas/TxFifo.lean): a 64-byte FIFO from which the modulator may take any number of bytes
  before every SPI transfer — so also between the transfers of a running handler —, flag bits
  that reflect the FIFO level at the moment they are read (FifoThreshold = 31), any transfer
  may fail, and the application may do anything inside the transmit callback.  `gwp` quantifies
  over every behaviour this environment admits; `poison` marks a FIFO overflow, a flush of the
  FIFO by acknowledging FifoOverrun, and any request foreign to the transmit path.
-/
namespace Sx
open Sx.Model DM

/-- a transmission of frame `F` is in progress: the frame lies at the start of the packet
    buffer, `expected_packet_length` is its length and `fsk_ook_packet_sent_received` counts
    the bytes handed over -/
structure TxSt (F : List UInt8) (h : Handle) : Prop where
  len : h.expected.toNat = F.length
  fits : F.length ≤ h.packet.length
  frame : h.packet.take F.length = F
  sent : h.received.toNat ≤ F.length

/-- the frame of a packet: length byte (variable format: payload plus address byte), optional
    address byte, payload -/
def fskFrame (format : Nat) (addr : Option UInt8) (data : List UInt8) : List UInt8 :=
  (if format = Gen.SX127X_VARIABLE then [u8 (data.length + addr.toList.length)] else []) ++ addr.toList ++ data

def QueuePost (F : List UInt8) (h : Handle) (g g' : TxG) (r : Except Code Unit) (h' : Handle) : Prop :=
  g'.poison = false ∧ g'.ended = false ∧ g'.cbs = g.cbs ∧ g'.Conserved ∧ h'.opmod = h.opmod ∧ h'.txCb = h.txCb ∧
  match r with
  | .ok _ => TxSt F h' ∧ h'.received.toNat = min F.length 64 ∧ g'.handed = F.take h'.received.toNat
  | .error _ => g'.handed = []

theorem tx_with_remaining (F : List UInt8) (h : Handle) (g : TxG) (hF : F.length < 65536)
    (hfits : F.length ≤ h.packet.length) (hframe : h.packet.take F.length = F)
    (hlive : g.live) (hempty : g.fifo = []) (hh : g.handed = []) (ho : g.out = []) :
    DM.gwp txE (fskOokTxWithRemaining (UInt16.ofNat F.length)) h g (fun g' r h' => QueuePost F h g g' r h') := by
  unfold fskOokTxWithRemaining
  have hlen : (UInt16.ofNat F.length).toNat = F.length := by simp [UInt16.toNat_ofNat']; omega
  rw [hlen]
  generalize hts : (if F.length > Gen.FIFO_SIZE_FSK then Gen.FIFO_SIZE_FSK else F.length) = ts
  have htsv : ts = min F.length 64 := by
    rw [← hts]; simp only [Gen.FIFO_SIZE_FSK]; split <;> omega
  rw [gwp_bind, gwp_modH]
  dsimp only
  rw [gwp_bind, gwp_getH]
  dsimp only
  have htsl : ts ≤ h.packet.length := by omega
  rw [if_pos htsl, gwp_bwrite]
  intro r g' hr
  have hc : g.Conserved := by unfold TxG.Conserved; rw [hh, ho, hempty]; rfl
  have hts16 : (UInt16.ofNat ts).toNat = ts := by simp [UInt16.toNat_ofNat']; omega
  cases r with
  | error c =>
    obtain ⟨hl, _⟩ := txR_fifo_err hlive _ c g' hr
    exact ⟨(hl.live hlive).1, (hl.live hlive).2, hl.cbs, hl.cons hc, rfl, rfl, hl.handed.trans hh⟩
  | ok u =>
    have hroom : g.fifo.length + (h.packet.rds 0 ts).length ≤ 64 := by
      rw [hempty]; simp only [Mem.rds, List.length_map, List.length_range, List.length_nil]; omega
    obtain ⟨hlive', hc', hh', hcbs', _⟩ := txR_fifo_ok hlive hc _ hroom u g' hr
    refine ⟨hlive'.1, hlive'.2, hcbs', hc', rfl, rfl, ⟨hlen, hfits, hframe, ?_⟩, ?_, ?_⟩
    · show (UInt16.ofNat ts).toNat ≤ _; rw [hts16]; omega
    · show (UInt16.ofNat ts).toNat = _; rw [hts16]; exact htsv
    · show g'.handed = F.take (UInt16.ofNat ts).toNat
      rw [hh', hh, hts16, List.nil_append, rds_eq_take _ _ htsl, ← hframe, List.take_take]
      congr 1; omega
theorem queue_fail {F h g} (hlive : g.live) (hc : g.Conserved) (hh : g.handed = []) (c : Code) :
    QueuePost F h g g (.error c) h := ⟨hlive.1, hlive.2, rfl, hc, rfl, rfl, hh⟩

theorem tx_assembled (F : List UInt8) (h : Handle) (g : TxG) (hF : F.length < 65536) (hfits : F.length ≤ h.packet.length)
    (hlive : g.live) (hempty : g.fifo = []) (hh : g.handed = []) (ho : g.out = []) :
    DM.gwp txE (fskOokTxWithRemaining (UInt16.ofNat F.length)) { h with packet := h.packet.wrs 0 F } g
      (fun g' r h' => QueuePost F h g g' r h') := by
  refine gwp_mono txE _ _ _ _ _ ?_ (tx_with_remaining F _ g hF (by simp; exact hfits) (wrs_take _ F hfits) hlive hempty hh ho)
  intro g' r h' ⟨a, b, c, d, e, f, k⟩
  exact ⟨a, b, c, d, e, f, k⟩

/-- `sx127x_fsk_ook_tx_set_for_transmission`: the initial fill -/
theorem tx_queue (data : List UInt8) (hd : data.length < 65536) (h : Handle) (g : TxG)
    (hlive : g.live) (hempty : g.fifo = []) (hh : g.handed = []) (ho : g.out = []) :
    DM.gwp txE (fskOokTxSetForTransmission data) h g
      (fun g' r h' => QueuePost (fskFrame h.format none data) h g g' r h') := by
  have fail : ∀ c, QueuePost (fskFrame h.format none data) h g g (.error c) h :=
    queue_fail hlive (by unfold TxG.Conserved; rw [hh, ho, hempty]; rfl) hh
  unfold fskOokTxSetForTransmission
  rw [gwp_bind, gwp_checkFskOok]
  split
  · exact fail _
  dsimp only
  rw [gwp_bind, gwp_getH]
  dsimp only
  by_cases hv : h.format = Gen.SX127X_VARIABLE ∧ data.length > Gen.MAX_PACKET_SIZE
  · rw [if_pos hv, gwp_fail]; exact fail _
  rw [if_neg hv]
  by_cases hf : h.format = Gen.SX127X_FIXED ∧ data.length > Gen.MAX_PACKET_SIZE_FSK_FIXED
  · rw [if_pos hf, gwp_fail]; exact fail _
  rw [if_neg hf]
  by_cases hcap : data.length + (if h.format = Gen.SX127X_VARIABLE then 1 else 0) > h.packet.length
  · rw [if_pos hcap, gwp_fail]; exact fail _
  rw [if_neg hcap]
  by_cases hfmt : h.format = Gen.SX127X_VARIABLE
  · rw [if_pos hfmt] at hcap
    have hn : data.length ≤ 255 := by
      have : ¬data.length > Gen.MAX_PACKET_SIZE := fun hx => hv ⟨hfmt, hx⟩
      simp only [Gen.MAX_PACKET_SIZE] at this; omega
    have hF : fskFrame h.format none data = u8 data.length :: data := by simp [fskFrame, hfmt]
    rw [if_pos hfmt, hF, gwp_bind, gwp_packetStore]
    refine ⟨by omega, ?_⟩
    dsimp only
    rw [gwp_bind, gwp_packetCopy]
    refine ⟨by simp; omega, ?_⟩
    exact tx_assembled (u8 data.length :: data) h g (by simp; omega) (by simp; omega) hlive hempty hh ho
  · rw [if_neg hfmt] at hcap
    have hF : fskFrame h.format none data = data := by simp [fskFrame, hfmt]
    rw [if_neg hfmt, hF, gwp_bind, gwp_packetCopy]
    refine ⟨by omega, ?_⟩
    exact tx_assembled data h g hd (by omega) hlive hempty hh ho

/-- `sx127x_fsk_ook_tx_set_for_transmission_with_address` -/
theorem tx_queue_addr (data : List UInt8) (hd : data.length < 65535) (addr : UInt8) (h : Handle) (g : TxG)
    (hlive : g.live) (hempty : g.fifo = []) (hh : g.handed = []) (ho : g.out = []) :
    DM.gwp txE (fskOokTxSetForTransmissionWithAddress data addr) h g
      (fun g' r h' => QueuePost (fskFrame h.format (some addr) data) h g g' r h') := by
  have fail : ∀ c, QueuePost (fskFrame h.format (some addr) data) h g g (.error c) h :=
    queue_fail hlive (by unfold TxG.Conserved; rw [hh, ho, hempty]; rfl) hh
  unfold fskOokTxSetForTransmissionWithAddress
  rw [gwp_bind, gwp_checkFskOok]
  split
  · exact fail _
  dsimp only
  rw [gwp_bind, gwp_getH]
  dsimp only
  by_cases hv : h.format = Gen.SX127X_VARIABLE ∧ data.length > Gen.MAX_PACKET_SIZE - 1
  · rw [if_pos hv, gwp_fail]; exact fail _
  rw [if_neg hv]
  by_cases hf : h.format = Gen.SX127X_FIXED ∧ data.length > Gen.MAX_PACKET_SIZE_FSK_FIXED - 1
  · rw [if_pos hf, gwp_fail]; exact fail _
  rw [if_neg hf]
  by_cases hcap : data.length + (if h.format = Gen.SX127X_VARIABLE then 2 else 1) > h.packet.length
  · rw [if_pos hcap, gwp_fail]; exact fail _
  rw [if_neg hcap]
  by_cases hfmt : h.format = Gen.SX127X_VARIABLE
  · rw [if_pos hfmt] at hcap
    have hn : data.length ≤ 254 := by
      have : ¬data.length > Gen.MAX_PACKET_SIZE - 1 := fun hx => hv ⟨hfmt, hx⟩
      simp only [Gen.MAX_PACKET_SIZE] at this; omega
    have hF : fskFrame h.format (some addr) data = u8 (data.length + 1) :: addr :: data := by simp [fskFrame, hfmt]
    rw [if_pos hfmt, hF, gwp_bind, gwp_packetStore]
    refine ⟨by omega, ?_⟩
    dsimp only
    rw [gwp_bind, gwp_packetStore]
    refine ⟨by simp; omega, ?_⟩
    dsimp only
    rw [gwp_bind, gwp_packetCopy]
    refine ⟨by simp; omega, ?_⟩
    exact tx_assembled (u8 (data.length + 1) :: addr :: data) h g (by simp; omega) (by simp; omega) hlive hempty hh ho
  · rw [if_neg hfmt] at hcap
    have hF : fskFrame h.format (some addr) data = addr :: data := by simp [fskFrame, hfmt]
    rw [if_neg hfmt, hF, gwp_bind, gwp_packetStore]
    refine ⟨by omega, ?_⟩
    dsimp only
    rw [gwp_bind, gwp_packetCopy]
    refine ⟨by simp; omega, ?_⟩
    exact tx_assembled (addr :: data) h g (by simp; omega) (by simp; omega) hlive hempty hh ho

/-- the outcome of one handler invocation during a transmission -/
def TxPost (F : List UInt8) (h : Handle) (g g' : TxG) (h' : Handle) : Prop :=
  g'.poison = false ∧ g'.Conserved ∧
  ( (g'.ended = false ∧ g'.cbs = g.cbs ∧ TxSt F h' ∧ h.received.toNat ≤ h'.received.toNat
      ∧ g'.handed = F.take h'.received.toNat ∧ h'.txCb = h.txCb ∧ h'.opmod = h.opmod ∧ h'.activeModem = h.activeModem)
    ∨
    ((g'.irq &&& 0x08 ≠ 0 ∨ (g'.irq &&& 0x40 ≠ 0 ∧ g'.out = g'.handed)) ∧ g'.handed = g.handed
      ∧ ((h.txCb = true ∧ g'.ended = true ∧ g'.cbs = g.cbs ++ [.tx])
         ∨ (h.txCb = false ∧ g'.ended = false ∧ g'.cbs = g.cbs ∧ h' = resetState h))))

theorem txpost_same {F h g g1} (hst : TxSt F h) (hlive : g.live) (hc : g.Conserved) (hh : g.handed = F.take h.received.toNat)
    (hl : g.Later g1) : TxPost F h g g1 h :=
  ⟨(hl.live hlive).1, hl.cons hc, Or.inl ⟨(hl.live hlive).2, hl.cbs, hst, Nat.le_refl _, hl.handed.trans hh, rfl, rfl, rfl⟩⟩

theorem tx_complete {F h g g2} (hlive : g.live) (hc : g.Conserved) (hl : g.Later g2)
    (hdone : g2.irq &&& 0x08 ≠ 0 ∨ (g2.irq &&& 0x40 ≠ 0 ∧ g2.fifo = [])) :
    DM.gwp txE (do modH resetState; txCallback) h g2 (fun g' _ h' => TxPost F h g g' h') := by
  rw [gwp_bind, gwp_modH]
  dsimp only
  unfold txCallback
  rw [gwp_bind, gwp_getH]
  dsimp only
  have hc2 := hl.cons hc
  have hout : g2.irq &&& 0x40 ≠ 0 ∧ g2.fifo = [] → g2.irq &&& 0x40 ≠ 0 ∧ g2.out = g2.handed := by
    intro ⟨h1, h2⟩
    refine ⟨h1, ?_⟩
    have := hc2; unfold TxG.Conserved at this; rw [this, h2]; simp
  by_cases hcb : h.txCb = true
  · have : (resetState h).txCb = true := hcb
    rw [if_pos this, gwp_cb]
    intro h' g' hcc
    have hg' : g' = { g2 with cbs := g2.cbs ++ [CbEvent.tx], ended := true } := hcc
    subst hg'
    refine ⟨(hl.live hlive).1, hc2, Or.inr ⟨?_, hl.handed, Or.inl ⟨hcb, rfl, ?_⟩⟩⟩
    · exact hdone.imp id hout
    · show g2.cbs ++ [CbEvent.tx] = _; rw [hl.cbs]
  · have hcb' : h.txCb = false := by cases hx : h.txCb <;> simp_all
    have : ¬(resetState h).txCb = true := hcb
    rw [if_neg this, gwp_pure]
    exact ⟨(hl.live hlive).1, hc2, Or.inr ⟨hdone.imp id hout, hl.handed, Or.inr ⟨hcb', (hl.live hlive).2, hl.cbs, rfl⟩⟩⟩

theorem tx_invocation (fuel : Nat) (F : List UInt8) (h : Handle) (g : TxG) (hst : TxSt F h) (hm : h.opmod = Gen.SX127x_MODE_TX)
    (hlive : g.live) (hc : g.Conserved) (hh : g.handed = F.take h.received.toNat) :
    DM.gwp txE (fskOokHandleInterrupt fuel) h g (fun g' _ h' => TxPost F h g g' h') := by
  unfold fskOokHandleInterrupt
  rw [gwp_bind, gwp_rread]
  intro r g1 hr
  obtain ⟨hl1, hr1⟩ := txR_read hlive r g1 hr
  cases r with
  | error c => exact txpost_same hst hlive hc hh hl1
  | ok v =>
    obtain ⟨hirq1, hPR, hOV, hLV, hEM⟩ := hr1
    dsimp only
    rw [gwp_bind, gwp_swrite]
    intro r2 g2 hr2
    obtain ⟨hl2, hirq2⟩ := txR_ack (hl1.live hlive) v hOV r2 g2 hr2
    have hl02 := hl1.trans hl2
    cases r2 with
    | error c => exact txpost_same hst hlive hc hh hl02
    | ok u =>
      dsimp only
      rw [gwp_bind, gwp_getH]
      dsimp only
      simp only [irq_bits]
      rw [if_neg (by rw [hPR]; exact fun hn => hn rfl)]
      by_cases hps : v &&& 8 ≠ 0
      · rw [if_pos hps]
        exact tx_complete hlive hc hl02 (Or.inl (by rw [hirq2, hirq1]; exact hps))
      rw [if_neg hps, if_pos hm]
      by_cases hem : v &&& 64 ≠ 0
      · rw [if_pos hem]
        exact tx_complete hlive hc hl02 (Or.inr ⟨by rw [hirq2, hirq1]; exact hem, hl2.empty (hEM hem)⟩)
      rw [if_neg hem]
      by_cases hlv : v &&& 32 = 0 ∧ v &&& 128 = 0
      · rw [if_pos hlv]
        have hts := toSend_val h.expected h.received (by rw [hst.len]; exact hst.sent)
        dsimp only at hts
        generalize (if (h.expected.toNat : Int) - (h.received.toNat : Int) > ((Gen.HALF_MAX_FIFO_THRESHOLD - 1 : Nat) : Int) then
                    u8 (Gen.HALF_MAX_FIFO_THRESHOLD - 1)
                  else UInt8.ofNat (((h.expected.toNat : Int) - (h.received.toNat : Int)) % 256).toNat) = ts at hts ⊢
        by_cases hz : ts = 0
        · rw [if_pos hz, gwp_pure]
          exact txpost_same hst hlive hc hh hl02
        rw [if_neg hz]
        have hfit : h.received.toNat + ts.toNat ≤ F.length := by
          have := hst.sent; have := hst.len; omega
        have hfitp : h.received.toNat + ts.toNat ≤ h.packet.length := Nat.le_trans hfit hst.fits
        rw [if_neg (by omega), if_pos hfitp, gwp_bind, gwp_bwrite]
        intro r3 g3 hr3
        cases r3 with
        | error c =>
          obtain ⟨hl3, _⟩ := txR_fifo_err (hl02.live hlive) _ c g3 hr3
          exact txpost_same hst hlive hc hh (hl02.trans hl3)
        | ok u3 =>
          have hroom : g2.fifo.length + (h.packet.rds h.received.toNat ts.toNat).length ≤ 64 := by
            have := hLV hlv.1; have := hl2.len
            simp only [Mem.rds, List.length_map, List.length_range]; omega
          obtain ⟨hlive3, hc3, hh3, hcbs3, _⟩ := txR_fifo_ok (hl02.live hlive) (hl02.cons hc) _ hroom u3 g3 hr3
          dsimp only
          rw [gwp_modH]
          have hsum : (h.received + ts.toUInt16).toNat = h.received.toNat + ts.toNat := by
            have h1 : ts.toUInt16.toNat = ts.toNat := by simp
            rw [UInt16.toNat_add, h1]
            have := hst.len; have := h.expected.toNat_lt
            omega
          refine ⟨hlive3.1, hc3, Or.inl ⟨hlive3.2, hcbs3.trans hl02.cbs, ?_, ?_, ?_, rfl, rfl, rfl⟩⟩
          · exact ⟨hst.len, hst.fits, hst.frame, by show (h.received + ts.toUInt16).toNat ≤ _; rw [hsum]; exact hfit⟩
          · show h.received.toNat ≤ (h.received + ts.toUInt16).toNat; rw [hsum]; omega
          · show g3.handed = F.take (h.received + ts.toUInt16).toNat
            rw [hh3, hl02.handed, hh, hsum, ← hst.frame]
            exact (frame_chunk h.packet F.length _ _ hst.fits hfit).symm
      · rw [if_neg hlv, gwp_pure]
        exact txpost_same hst hlive hc hh hl02

/-- handler invocations, each against any behaviour the transmit environment admits, up to and
    including the one in which the transmit callback is invoked -/
inductive TxTrace (fuel : Nat) (h : Handle) (g : TxG) : Handle → TxG → Prop
  | nil : TxTrace fuel h g h g
  | irq {h1 g1 h2 g2 r} : TxTrace fuel h g h1 g1 → g1.ended = false →
      (fskOokHandleInterrupt fuel h1).Runs txE g1 g2 (r, h2) → TxTrace fuel h g h2 g2

/-- what holds at every point of a transmission of frame `F` -/
def TxSessInv (F : List UInt8) (g : TxG) (h' : Handle) (g' : TxG) : Prop :=
  g'.poison = false ∧ g'.Conserved ∧
  ( (g'.ended = false ∧ g'.cbs = g.cbs ∧ TxSt F h' ∧ h'.opmod = Gen.SX127x_MODE_TX ∧ h'.txCb = true
      ∧ g'.handed = F.take h'.received.toNat)
    ∨ (g'.ended = true ∧ g'.cbs = g.cbs ++ [.tx] ∧ (∃ k, g'.handed = F.take k)
      ∧ (g'.irq &&& 0x08 ≠ 0 ∨ (g'.irq &&& 0x40 ≠ 0 ∧ g'.out = g'.handed))))

/-- **C04.** For every frame, every handle in which it is queued with the transmit callback
    registered (any buffer size, any number of bytes already handed over), a FIFO that holds what was handed over and
    not yet taken, and every sequence of handler invocations against
    every admissible behaviour of chip and bus (the modulator taking bytes between any two
    transfers, any transfer failing, any flag byte consistent with the FIFO level):
    * the bytes written into the FIFO are, at every point, exactly the first `sent` bytes of
      the frame — each byte once, in order (`handed = F.take sent`);
    * no write exceeds the free space of the FIFO, the FIFO is never flushed, and no other
      register is touched (`poison = false`); nothing is lost inside the chip (`Conserved`);
    * no callback is invoked before completion; the invocation that completes invokes the
      transmit callback exactly once, and only after the chip has reported PacketSent, or
      FifoEmpty with every byte handed over so far shifted out. -/
theorem C04_session (fuel : Nat) (F : List UInt8) (h : Handle) (g : TxG) (hst : TxSt F h)
    (hm : h.opmod = Gen.SX127x_MODE_TX) (hcb : h.txCb = true)
    (hlive : g.live) (hc : g.Conserved) (hh : g.handed = F.take h.received.toNat)
    (h' : Handle) (g' : TxG) (ht : TxTrace fuel h g h' g') : TxSessInv F g h' g' := by
  induction ht with
  | nil => exact ⟨hlive.1, hc, Or.inl ⟨hlive.2, rfl, hst, hm, hcb, hh⟩⟩
  | @irq h1 g1 h2 g2 r _ hne hrun ih =>
    obtain ⟨hp1, hc1, hcase⟩ := ih
    rcases hcase with ⟨_, hcbs1, hst1, hm1, hcb1, hh1⟩ | ⟨he, _⟩
    · have hpost := Prog.gwp_runs hrun (tx_invocation fuel F h1 g1 hst1 hm1 ⟨hp1, hne⟩ hc1 hh1)
      obtain ⟨hp2, hc2, hcase2⟩ := hpost
      refine ⟨hp2, hc2, ?_⟩
      rcases hcase2 with ⟨he2, hcbs2, hst2, _, hh2, hcb2, hm2, _⟩ | ⟨hdone, hh2, hfin⟩
      · exact Or.inl ⟨he2, hcbs2.trans hcbs1, hst2, hm2.trans hm1, hcb2.trans hcb1, hh2⟩
      · rcases hfin with ⟨_, he2, hcbs2⟩ | ⟨hno, _⟩
        · exact Or.inr ⟨he2, by rw [hcbs2, hcbs1], ⟨_, hh2.trans hh1⟩, hdone⟩
        · rw [hcb1] at hno; cases hno
    · rw [he] at hne; cases hne

/-- in particular: what has been handed over is a prefix of the frame, at every point -/
theorem C04_in_order (fuel : Nat) (F : List UInt8) (h : Handle) (g : TxG) (hst : TxSt F h)
    (hm : h.opmod = Gen.SX127x_MODE_TX) (hcb : h.txCb = true)
    (hlive : g.live) (hc : g.Conserved) (hh : g.handed = F.take h.received.toNat)
    (h' : Handle) (g' : TxG) (ht : TxTrace fuel h g h' g') :
    g'.poison = false ∧ ∃ k, g'.handed = F.take k ∧ g'.out ++ g'.fifo = F.take k := by
  obtain ⟨hp, hcons, hcase⟩ := C04_session fuel F h g hst hm hcb hlive hc hh h' g' ht
  refine ⟨hp, ?_⟩
  rcases hcase with ⟨_, _, _, _, _, hh'⟩ | ⟨_, _, ⟨k, hk⟩, _⟩
  · exact ⟨_, hh', by rw [← hh']; exact hcons.symm⟩
  · exact ⟨k, hk, by rw [← hk]; exact hcons.symm⟩

theorem tx_api_irq (cap fuel : Nat) (F : List UInt8) (h : Handle) (g : TxG) (hst : TxSt F h)
    (hmod : h.activeModem = Gen.SX127x_MODULATION_FSK ∨ h.activeModem = Gen.SX127x_MODULATION_OOK)
    (hm : h.opmod = Gen.SX127x_MODE_TX) (hlive : g.live) (hc : g.Conserved) (hh : g.handed = F.take h.received.toNat) :
    (Api.prog cap fuel .irq h).gwp txE g (fun g' rh => TxPost F h g g' rh.2) :=
  gwp_api_irq cap fuel h g hmod (tx_invocation fuel F h g hst hm hlive hc hh)

/-- a system in the middle of transmitting frame `F`: the handle, and a chip in FSK/OOK
    transmit mode whose FIFO is the ghost FIFO -/
structure TxRunning (n0 : Nat) (F : List UInt8) (c : SysCfg) (s : Sys) (h : Handle) (g : TxG) : Prop where
  handle : s.handle = some h
  st : TxSt F h
  modem : h.activeModem = Gen.SX127x_MODULATION_FSK ∨ h.activeModem = Gen.SX127x_MODULATION_OOK
  mode : h.opmod = Gen.SX127x_MODE_TX
  live : g.live
  cons : g.Conserved
  handed : g.handed = F.take h.received.toNat
  chip : TxChip n0 s.world.chip g.fifo
  cache : c.cached = true → s.world.cache.WF

/-- **C04 on the chip model.** One handler invocation of the interpreter — cached or uncached
    build, any buffer size, modulator events scheduled before any of its transfers, any set of
    failing transfers, any application reaction in the callback — on a chip that is
    transmitting: the outcome is the one `tx_invocation` describes (`TxPost`); and, unless the
    callback has run, the chip is again a transmitting chip (`TxChip`) whose FIFO is the ghost
    FIFO minus what the modulator took after the last transfer, whose overflow counter is still
    `n0`, and whose cache (cached build) is well formed.  Once the callback has run nothing is
    said of the chip, the overflow counter included. -/
theorem C04_step_on_chip (n0 : Nat) (F : List UInt8) (c : SysCfg) (s : Sys) (h : Handle) (g : TxG)
    (hr : TxRunning n0 F c s h g) (sched : List (Nat × Env)) (faults : List (Nat × Code))
    (hsched : ∀ e ∈ sched, e.2 = .txShift ∨ e.2 = .txSent) :
    match s.step c (.api .irq sched faults) with
    | (s', .ret _ _ _) => ∃ h' g', s'.handle = some h' ∧ TxPost F h g g' h' ∧
        (g'.ended = false → ∃ k, TxChip n0 s'.world.chip (g'.fifo.drop k) ∧ (c.cached = true → s'.world.cache.WF))
    | (_, .ub _) => True
    | (_, _) => False := by
  have := step_irq_gwp c (tx_covers n0 c.cached _) hr.handle sched faults
    (g := g) (Or.inr (Or.inr (TxWorld.mk (w := s.start .irq sched faults) hr.chip hsched hr.cache)))
    (tx_api_irq c.cap c.fuel F h g hr.st hr.modem hr.mode hr.live hr.cons hr.handed)
  generalize s.step c (.api .irq sched faults) = st at this
  obtain ⟨s', o⟩ := st
  cases o with
  | ret r cbs bus =>
    obtain ⟨h', w, g', e1, hab, hpost, _, e2⟩ := this
    exact ⟨h', g', e1, hpost, fun hne => e2 ▸ tx_after (txAbs_live ⟨hpost.1, hne⟩ hab)⟩
  | _ => exact this

/-- non-vacuity: a frame queued in a 16-byte buffer, two bytes already handed over and still in
    the FIFO, satisfies the hypotheses of `C04_session` -/
example : TxSt [3, 1, 2, 3] { packet := [3, 1, 2, 3] ++ Mem.zeros 12, expected := 4, received := 2, opmod := Gen.SX127x_MODE_TX, txCb := true }
    ∧ ({ fifo := [3, 1], handed := [3, 1] } : TxG).Conserved ∧ ({ fifo := [3, 1], handed := [3, 1] } : TxG).live :=
  ⟨⟨by decide, by decide, by decide, by decide⟩, rfl, rfl, rfl⟩

/-- non-vacuity: the environment admits a flag read that reports FifoEmpty on an empty FIFO
    and one that reports a level below the threshold -/
example : txR {} (.rread 0x3f) (.u8 (.ok 0x40)) { irq := 0x40 } ∧
    txR { fifo := [1, 2, 3] } (.rread 0x3f) (.u8 (.ok 0x00)) { fifo := [2, 3], out := [1], irq := 0 } := by
  constructor
  · unfold txR txRLive
    simp only [Bool.false_eq_true, or_self, ↓reduceIte]
    exact ⟨0, rfl, by decide, by decide, fun _ => by decide, fun _ => rfl⟩
  · unfold txR txRLive
    simp only [Bool.false_eq_true, or_self, ↓reduceIte]
    exact ⟨1, rfl, by decide, by decide, fun _ => by decide, fun h => absurd rfl h⟩

/-- **C04 on the chip model, as observed.** `C04_step_on_chip` with the callbacks the observation
    shows (either build, any in-call schedule of the modulator, any failing transfers, no
    application reaction): exactly what the invocation added to the ghost's list — nothing while
    the frame is still being handed over, the one transmit callback when the chip reports
    completion. -/
theorem C04_step_on_chip_obs (n0 : Nat) (F : List UInt8) (c : SysCfg) (hnr : c.NoReact) (s : Sys) (h : Handle) (g : TxG)
    (hr : TxRunning n0 F c s h g) (sched : List (Nat × Env)) (faults : List (Nat × Code))
    (hsched : ∀ e ∈ sched, e.2 = .txShift ∨ e.2 = .txSent) :
    match s.step c (.api .irq sched faults) with
    | (s', .ret _ cbs _) => ∃ h' g', s'.handle = some h' ∧ TxPost F h g g' h' ∧ g'.cbs = g.cbs ++ cbs.map (·.ev) ∧
        (g'.ended = false → ∃ k, TxChip n0 s'.world.chip (g'.fifo.drop k) ∧ (c.cached = true → s'.world.cache.WF))
    | (_, .ub _) => True
    | (_, _) => False := by
  have := step_irq_gwp_obs txK c (onCb_noReact' hnr) (tx_covers n0 c.cached _) hr.handle sched faults
    (g := g) (Or.inr (Or.inr (TxWorld.mk (w := s.start .irq sched faults) hr.chip hsched hr.cache)))
    (tx_api_irq c.cap c.fuel F h g hr.st hr.modem hr.mode hr.live hr.cons hr.handed)
  generalize s.step c (.api .irq sched faults) = st at this
  obtain ⟨s', o⟩ := st
  cases o with
  | ret r cbs bus =>
    obtain ⟨h', w, g', e1, hab, hpost, hcbs, e2⟩ := this
    exact ⟨h', g', e1, hpost, hcbs (by rw [show txK.bad g' = (g'.poison = true) from rfl, hpost.1]; exact Bool.false_ne_true),
      fun hne => e2 ▸ tx_after (txAbs_live ⟨hpost.1, hne⟩ hab)⟩
  | _ => exact this

/-- **the modulator does something between two operations of the host** (takes a byte, or reports
    PacketSent): the transmission is still running, with the ghost FIFO shifted accordingly -/
theorem TxRunning.event {n0 F c s h g} (hr : TxRunning n0 F c s h g) (e : Env) (he : e = .txShift ∨ e = .txSent) :
    ∃ k, TxRunning n0 F c (s.step c (.env e)).1 h (g.shift k) ∧ (s.step c (.env e)).2 = .env := by
  obtain ⟨k, hk⟩ := txchip_event hr.chip e he
  refine ⟨k, ⟨hr.handle, hr.st, hr.modem, hr.mode, (TxG.later_shift g k).live hr.live, TxG.shift_conserved hr.cons k, ?_, hk, hr.cache⟩, rfl⟩
  exact (TxG.later_shift g k).handed.trans hr.handed

/-- one handler invocation of a running transmission, as the application sees it; in the first case
    the handle still has the callback it had -/
theorem TxRunning.irq_cases {n0 F c s h g} (hnr : c.NoReact) (hr : TxRunning n0 F c s h g) (sched : List (Nat × Env))
    (faults : List (Nat × Code)) (hsched : ∀ e ∈ sched, e.2 = .txShift ∨ e.2 = .txSent) :
    match s.step c (.api .irq sched faults) with
    | (s', .ret _ cbs _) =>
        (∃ h' g', TxRunning n0 F c s' h' g' ∧ cbs.map (·.ev) = [] ∧ g'.cbs = g.cbs ∧ h.received.toNat ≤ h'.received.toNat
          ∧ h'.txCb = h.txCb) ∨
        (cbs.map (·.ev) = [.tx] ∧ h.txCb = true) ∨
        (cbs.map (·.ev) = [] ∧ h.txCb = false ∧ s'.handle = some (resetState h))
    | (_, .ub _) => True
    | (_, _) => False := by
  have := C04_step_on_chip_obs n0 F c hnr s h g hr sched faults hsched
  generalize s.step c (.api .irq sched faults) = st at this
  obtain ⟨s', o⟩ := st
  cases o with
  | ret r cbs bus =>
    obtain ⟨h', g', hh', ⟨hpois, hcons, hcase⟩, hcbs, hch⟩ := this
    rcases hcase with ⟨hend, e, hst', hmono, hhand, hcb, hop, hmo⟩ | ⟨_, _, hfin⟩
    · obtain ⟨k, hk, hcache⟩ := hch hend
      have hl := TxG.later_shift g' k
      refine Or.inl ⟨h', g'.shift k, ⟨hh', hst', hmo ▸ hr.modem, hop.trans hr.mode, hl.live ⟨hpois, hend⟩,
        TxG.shift_conserved hcons k, hl.handed.trans hhand, hk, hcache⟩, shown_nil hcbs e, hl.cbs.trans e, hmono, hcb⟩
    · rcases hfin with ⟨hcb, _, e⟩ | ⟨hcb, _, e, hreset⟩
      · exact Or.inr (Or.inl ⟨shown_eq hcbs e, hcb⟩)
      · exact Or.inr (Or.inr ⟨shown_nil hcbs e, hcb, by rw [hh', hreset]⟩)
  | _ => exact this

/-- **the host runs the interrupt handler** (either build, any modulator events before any of its
    transfers, any failing transfers; no application reaction): either the transmission is still
    running and the application saw nothing, or the chip reported completion and the application
    saw exactly one transmit callback (none if no callback is registered, with the per-packet
    state reset) -/
theorem TxRunning.irq {n0 F c s h g} (hnr : c.NoReact) (hr : TxRunning n0 F c s h g) (sched : List (Nat × Env))
    (faults : List (Nat × Code)) (hsched : ∀ e ∈ sched, e.2 = .txShift ∨ e.2 = .txSent) :
    match s.step c (.api .irq sched faults) with
    | (s', .ret _ cbs _) =>
        (∃ h' g', TxRunning n0 F c s' h' g' ∧ cbs.map (·.ev) = [] ∧ g'.cbs = g.cbs ∧ h.received.toNat ≤ h'.received.toNat) ∨
        (cbs.map (·.ev) = [.tx] ∧ h.txCb = true) ∨
        (cbs.map (·.ev) = [] ∧ h.txCb = false ∧ s'.handle = some (resetState h))
    | (_, .ub _) => True
    | (_, _) => False := by
  have := hr.irq_cases hnr sched faults hsched
  generalize s.step c (.api .irq sched faults) = st at this
  obtain ⟨s', o⟩ := st
  cases o with
  | ret r cbs bus => exact this.imp (fun ⟨h', g', hr', e, ec, hm, _⟩ => ⟨h', g', hr', e, ec, hm⟩) id
  | _ => exact this

/-- the operations of a transmission history: the modulator takes a byte or reports PacketSent
    between two operations of the host, or the host runs the handler (with such events before any
    of its transfers, and any failing transfers) -/
def TxHistOp : Op → Prop
  | .env e => e = .txShift ∨ e = .txSent
  | .api a sched _ => a = .irq ∧ ∀ e ∈ sched, e.2 = .txShift ∨ e.2 = .txSent

/-- what the application sees of a whole transmission history: nothing, until one invocation shows
    exactly the transmit callback (the model's undefined-behaviour outcome, which C08 excludes
    for everything but loop fuel, ends the statement) -/
def TxSeen : List Obs → Prop
  | [] => True
  | o :: rest => (∃ u, o = .ub u) ∨ (o.cbEvents = [] ∧ TxSeen rest) ∨ o.cbEvents = [.tx]

/-- **C04 on the chip model, whole histories.** From a running transmission with a transmit
    callback registered, for every history of modulator events and handler invocations (either
    build, events and failing transfers also inside the invocations, no application reaction): the
    application sees nothing until one invocation shows exactly one transmit callback. -/
theorem C04_history_on_chip (n0 : Nat) (F : List UInt8) (c : SysCfg) (hnr : c.NoReact) (ops : List Op)
    (hops : ∀ op ∈ ops, TxHistOp op) (s : Sys) (h : Handle) (g : TxG) (hr : TxRunning n0 F c s h g) (hcb : h.txCb = true) :
    TxSeen (Sys.run c s ops).2 := by
  induction ops generalizing s h g with
  | nil => trivial
  | cons op rest ih =>
    have hop := hops op List.mem_cons_self
    have hrest : ∀ o ∈ rest, TxHistOp o := fun o ho => hops o (List.mem_cons_of_mem _ ho)
    simp only [Sys.run]
    cases op with
    | env e =>
      obtain ⟨k, hr', ho⟩ := hr.event (c := c) e hop
      right; left
      refine ⟨by rw [ho]; rfl, ih hrest _ h _ hr' hcb⟩
    | api a sched faults =>
      obtain ⟨ha, hsched⟩ := hop
      subst ha
      have := hr.irq_cases hnr sched faults hsched
      generalize hst : s.step c (.api .irq sched faults) = st at this
      obtain ⟨s', o⟩ := st
      cases o with
      | ub u => left; exact ⟨u, rfl⟩
      | skipped => exact absurd this id
      | env => exact absurd this id
      | ret r cbs bus =>
        rcases this with ⟨h', g', hr', e, _, _, hcb'⟩ | ⟨e, _⟩ | ⟨_, hno, _⟩
        · right; left; exact ⟨e, ih hrest s' h' g' hr' (hcb'.trans hcb)⟩
        · right; right; exact e
        · rw [hcb] at hno; cases hno

/-- non-vacuity of `TxSeen`: a history whose first callback is not the transmit callback is not
    accepted -/
example : ¬TxSeen [.ret (.ok .none) [] [], .ret (.ok .none) [{ ev := .rx [] 0 }] []] ∧
    TxSeen [.env, .ret (.ok .none) [] [], .ret (.ok .none) [{ ev := .tx }] []] := by
  constructor
  · intro h
    rcases h with ⟨u, e⟩ | ⟨_, h2⟩ | e
    · cases e
    · rcases h2 with ⟨u, e⟩ | ⟨e, _⟩ | e
      · cases e
      · cases e
      · cases e
    · cases e
  · exact Or.inr (Or.inl ⟨rfl, Or.inr (Or.inl ⟨rfl, Or.inr (Or.inr rfl)⟩)⟩)

end Sx
