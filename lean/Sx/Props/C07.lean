import Sx.Lemmas.Ghost
import Sx.Lemmas.IrqBits
import Sx.Props.C05
/-
  C07 — interrupt flags: every event is acted on once; none is lost or cleared unseen.
-/
namespace Sx
open Sx.Model DM Mem Chip

/-- the program starts with a single-register read of `reg`; if that fails it returns the error
    with the handle untouched, and otherwise its next request is a write of exactly the byte
    read to the same register -/
def AckIsRead (reg : Nat) (h : Handle) (p : Prog (Except Code Unit × Handle)) : Prop :=
  match p with
  | .rread r k => r = reg ∧ (∀ c, k (.error c) = .ret (.error c, h)) ∧
      ∀ v, ∃ k', k (.ok v) = .swrite reg [v] k'
  | _ => False

/-- **C07, acknowledge = read (LoRa).** Whatever handle it runs on, the LoRa handler begins with a
    read of RegIrqFlags and its very next request is a write of exactly the value read to the
    same register. -/
theorem C07_lora_ack_is_read (h : Handle) : AckIsRead 0x12 h (loraHandleInterrupt h) := by
  unfold loraHandleInterrupt
  simp only [bind, DM.bind', DM.rread, DM.swrite, Prog.bind, Gen.REGIRQFLAGS, AckIsRead]
  exact ⟨trivial, fun _ => trivial, fun _ => ⟨_, rfl⟩⟩

/-- **C07, acknowledge = read (FSK/OOK, RegIrqFlags2).** -/
theorem C07_fsk_ack_is_read (fuel : Nat) (h : Handle) : AckIsRead 0x3f h (fskOokHandleInterrupt fuel h) := by
  unfold fskOokHandleInterrupt
  simp only [bind, DM.bind', DM.rread, DM.swrite, Prog.bind, Gen.REGIRQFLAGS2, AckIsRead]
  exact ⟨trivial, fun _ => trivial, fun _ => ⟨_, rfl⟩⟩

/-- **C07, nothing is cleared unseen.** On the chip's write-1-to-clear flag register, writing
    back the sampled value `v` clears exactly the sampled bits: of the further flags `e` the chip
    raised between the sampling and the acknowledgement, those outside `v` are still set afterwards
    (`C07_unsampled_bits_survive`). -/
theorem C07_later_events_stay_pending (c : Chip) (hl : c.isLora = true) (wf : c.WF) (v e : UInt8) :
    let c1 := Env.apply c (.loraFlags e)          -- raised after the handler sampled `v`
    let c2 := c1.write 0x12 v                     -- the acknowledgement
    c2.lora.rd 0x12 = (c.lora.rd 0x12 ||| e) &&& ~~~ v := by
  intro c1 c2
  have hl1 : c1.isLora = true := hl
  show (c1.write 0x12 v).lora.rd 0x12 = _
  rw [write_lora_flags c1 v hl1]
  show ((c1.lora.wr 0x12 (c1.lora.rd 0x12 &&& ~~~ v)).rd 0x12) = _
  have hlen : 0x12 < c1.lora.length := by
    show 0x12 < (c.lora.wr 0x12 _).length
    simp [wf.hl]
  rw [rd_wr_same _ _ _ hlen]
  show (c.lora.wr 0x12 (c.lora.rd 0x12 ||| e)).rd 0x12 &&& ~~~ v = _
  rw [rd_wr_same _ _ _ (by rw [wf.hl]; decide)]

/-- with `x` the value sampled before the event: every bit of `e` that was not sampled survives -/
theorem C07_unsampled_bits_survive (x e : UInt8) : ((x ||| e) &&& ~~~ x) ||| (e &&& ~~~ x) = (x ||| e) &&& ~~~ x := by
  apply UInt8.eq_of_toBitVec_eq
  simp only [UInt8.toBitVec_and, UInt8.toBitVec_or, UInt8.toBitVec_not]
  ext i hi
  simp only [BitVec.getElem_and, BitVec.getElem_or, BitVec.getElem_not]
  cases x.toBitVec[i] <;> cases e.toBitVec[i] <;> rfl

/-- **C07, idle invocation (LoRa).** With no flag pending the handler invokes no callback and
    writes nothing but the (empty) acknowledgement. -/
theorem C07_idle_lora (fuel : Nat) (h : Handle) (c : Chip) (hl : c.isLora = true)
    (hm : h.activeModem = Gen.SX127x_MODULATION_LORA) (hz : c.lora.rd 0x12 = 0) :
    wp (handleInterrupt fuel) h ⟨c, [], []⟩ (fun r h' s' =>
      s'.cbs = [] ∧ h' = h ∧ s'.bus = [.w 0x12 [0] (.ok ()), .r 0x12 1 (.ok (be32 [0]))]) := by
  rw [wp_handleInterrupt_lora _ _ _ _ hm]
  unfold loraHandleInterrupt
  rw [wp_lora_ack _ _ _ _ _ _ hl, hz]
  simp only [wp_bind, wp_getH, UInt8.zero_and, ne_eq, not_true_eq_false, ↓reduceIte, wp_pure]
  exact ⟨trivial, trivial, trivial⟩

/-- **C07, CAD-done.** With a CAD callback registered, a CadDone event yields exactly one CAD
    callback carrying the detection bit and no other callback, whatever other flags are set. -/
theorem C07_cad_done (fuel : Nat) (h : Handle) (c : Chip) (hl : c.isLora = true)
    (hm : h.activeModem = Gen.SX127x_MODULATION_LORA) (hcb : h.cadCb = true) (hcad : c.lora.rd 0x12 &&& 0x04 ≠ 0) :
    wp (handleInterrupt fuel) h ⟨c, [], []⟩ (fun r h' s' =>
      s'.cbs = [.cad (c.lora.rd 0x12 &&& 0x01).toNat] ∧ h' = h) := by
  rw [wp_handleInterrupt_lora _ _ _ _ hm]
  unfold loraHandleInterrupt
  rw [wp_lora_ack _ _ _ _ _ _ hl]
  simp only [wp_bind, wp_getH, irq_bits, hcad, ne_eq, not_false_eq_true, ↓reduceIte, hcb, wp_cb]
  exact ⟨trivial, trivial⟩

/-- "nothing is pending" for the FSK/OOK handler in a given mode: no PayloadReady, no PacketSent;
    in TX mode the FIFO is neither empty nor below the threshold; in RX mode the FIFO is not above
    the threshold (or it is full, which the handler does not serve), and RegIrqFlags1 shows
    neither PreambleDetect nor SyncAddressMatch -/
def FskIdle (opmod : Nat) (v v1 : UInt8) : Prop :=
  v &&& 0x04 = 0 ∧ v &&& 0x08 = 0 ∧
  (opmod = Gen.SX127x_MODE_TX → v &&& 0x40 = 0 ∧ ¬(v &&& 0x20 = 0 ∧ v &&& 0x80 = 0)) ∧
  ((opmod = Gen.SX127x_MODE_RX_CONT ∨ opmod = Gen.SX127x_MODE_RX_SINGLE) →
    ¬(v &&& 0x20 ≠ 0 ∧ v &&& 0x80 = 0) ∧ v1 &&& 0x02 = 0 ∧ v1 &&& 0x01 = 0)

/-- the environment of an idle invocation: the two flag registers read `v` and `v1`; the ghost
    Boolean records whether the handler did anything but acknowledge them (a write to any other
    register, a burst write, a callback) -/
def idleE (v v1 : UInt8) : GEnv Bool where
  R g q a g' :=
    match q, a with
    | .rread reg, .u8 r => (reg = 0x3f → r = .ok v) ∧ (reg = 0x3e → r = .ok v1) ∧ g' = g
    | .swrite reg d, .unit _ => g' = (g || !((reg = 0x3f ∧ d = [v]) ∨ (reg = 0x3e ∧ d = [v1])))
    | .bwrite _ _, _ => g' = true
    | _, _ => g' = g
  C _ _ _ _ g' := g' = true

theorem gwp_idle_ack (v v1 : UInt8) (reg : Nat) (x : UInt8) (hx : reg = 0x3f ∧ x = v ∨ reg = 0x3e ∧ x = v1)
    (k : UInt8 → DM Unit) (h : Handle) (Q : Bool → Except Code Unit → Handle → Prop)
    (herr : ∀ c, Q false (.error c) h) (hk : DM.gwp (idleE v v1) (k x) h false Q) :
    DM.gwp (idleE v v1) (do let r ← rread reg; swrite reg [r]; k r) h false Q := by
  rw [gwp_bind, gwp_rread]
  intro r g1 ⟨h3f, h3e, hg1⟩
  have hr : r = .ok x := by
    rcases hx with ⟨e, rfl⟩ | ⟨e, rfl⟩
    · exact h3f e
    · exact h3e e
  subst hr hg1
  dsimp only
  rw [gwp_bind, gwp_swrite]
  intro r2 g2 hr2
  have hg2 : g2 = false := by
    have : g2 = (false || !((reg = 0x3f ∧ [x] = [v]) ∨ (reg = 0x3e ∧ [x] = [v1]))) := hr2
    rw [this]
    rcases hx with ⟨e, rfl⟩ | ⟨e, rfl⟩ <;> simp [e]
  subst hg2
  cases r2 with
  | error c => exact herr c
  | ok u => exact hk

/-- **C07, idle invocation (FSK/OOK).** In every mode, with any handle: when the flag registers
    show nothing pending for that mode, one invocation of the handler invokes no callback, writes
    nothing but the acknowledgement of exactly the flag bytes it read (RegIrqFlags2, and
    RegIrqFlags1 in receive mode), and leaves the handle as it was. -/
theorem C07_idle_fsk (fuel : Nat) (h : Handle) (v v1 : UInt8) (hidle : FskIdle h.opmod v v1) :
    DM.gwp (idleE v v1) (fskOokHandleInterrupt fuel) h false (fun g' _ h' => g' = false ∧ h' = h) := by
  obtain ⟨hpr, hps, htx, hrx⟩ := hidle
  unfold fskOokHandleInterrupt
  refine gwp_idle_ack v v1 _ v (.inl ⟨rfl, rfl⟩) _ h _ (fun _ => ⟨rfl, rfl⟩) ?_
  rw [gwp_bind, gwp_getH]
  dsimp only
  simp only [irq_bits, hpr, hps, ne_eq, not_true_eq_false, ↓reduceIte]
  by_cases hmtx : h.opmod = Gen.SX127x_MODE_TX
  · obtain ⟨he, hl⟩ := htx hmtx
    rw [gwp_ite, if_pos hmtx, gwp_ite, if_neg (fun hn => hn he), gwp_ite, if_neg hl, gwp_pure]
    exact ⟨rfl, rfl⟩
  · rw [gwp_ite, if_neg hmtx]
    by_cases hmrx : h.opmod = Gen.SX127x_MODE_RX_CONT ∨ h.opmod = Gen.SX127x_MODE_RX_SINGLE
    · obtain ⟨hlv, hp1, hs1⟩ := hrx hmrx
      rw [gwp_ite, if_pos hmrx, gwp_ite, if_neg hlv]
      refine gwp_idle_ack v v1 _ v1 (.inr ⟨rfl, rfl⟩) _ h _ (fun _ => ⟨rfl, rfl⟩) ?_
      rw [gwp_bind, gwp_getH]
      dsimp only
      simp only [hp1, hs1, not_true_eq_false, false_and, ↓reduceIte]
      exact ⟨rfl, rfl⟩
    · rw [gwp_ite, if_neg hmrx, gwp_pure]
      exact ⟨rfl, rfl⟩

/-- non-vacuity: an empty FIFO in receive mode, a half-full FIFO in transmit mode and any flags
    without PayloadReady/PacketSent in standby are idle -/
example : FskIdle Gen.SX127x_MODE_RX_CONT 0x40 0x00 ∧ FskIdle Gen.SX127x_MODE_TX 0x20 0x00 ∧
    FskIdle Gen.SX127x_MODE_STANDBY 0xe0 0xff := by unfold FskIdle; decide

end Sx
