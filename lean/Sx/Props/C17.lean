import Sx.Lemmas.Wp
import Sx.Lemmas.RunP
import Sx.Props.C05
/-
  C17 — attaching to a running chip is non-destructive.
-/
namespace Sx
open Sx.Model DM Mem Chip Cache

/-- what `sx127x_create` returns and leaves in the handle, as a function of the version read -/
def createResult (cap : Nat) (r : Except Code UInt8) : Except Code Out × Handle :=
  match r with
  | .error c => (.error c, zeroHandle cap)
  | .ok v => if v ≠ u8 Gen.SX127x_VERSION then (.error Gen.SX127X_ERR_INVALID_VERSION, zeroHandle cap)
             else (.ok .none, freshHandle cap)

/-- **Shape of handle creation.** Whatever handle memory it is given, `sx127x_create` is exactly
    one single-register read of RegVersion followed by a return: no other request exists in its
    program, in particular no write and no access to the FIFO address. -/
theorem create_is_one_read (cap fuel : Nat) (h : Handle) :
    Api.prog cap fuel .create h = .rread Gen.REGVERSION (fun r => .ret (createResult cap r)) := by
  unfold Api.prog Model.create
  show (fun h => _) h = _
  simp only [bind, DM.bind', DM.setH, DM.rread, DM.fail, Prog.bind, pure, DM.pure']
  congr 1
  funext r
  cases r with
  | error c => rfl
  | ok v =>
    simp only [createResult]
    split <;> rfl

theorem fresh_42 : Cache.fresh.isIgnore 0x42 = false ∧ Cache.fresh.isCached 0x42 = false ∧ Cache.fresh.size = 0x71 := by
  decide

/-- the environment events scheduled before the first (and only) transfer -/
def chipBefore (sched : List (Nat × Env)) (c : Chip) : Chip :=
  sched.foldl (fun ch e => if e.1 = 0 then e.2.apply ch else ch) c
/-- the events scheduled later happen after the call -/
def chipAfter (sched : List (Nat × Env)) (c : Chip) : Chip :=
  sched.foldl (fun ch e => if e.1 ≥ 1 then e.2.apply ch else ch) c
def faultAt0 (faults : List (Nat × Code)) : Option Code :=
  faults.foldl (fun r f => if f.1 = 0 then some f.2 else r) none

def versionRead (sched : List (Nat × Env)) (faults : List (Nat × Code)) (c : Chip) : Except Code UInt32 :=
  match faultAt0 faults with
  | some code => .error code
  | none => .ok (be32 [(chipBefore sched c).peek 0x42])

/-- **C17, handle creation.** In the cached build, from any state (with or without an old
    handle), with any environment events around the transfer and any fault: `sx127x_create`
    puts exactly one transfer on the bus, a one-byte read of RegVersion; it reports success iff
    that read succeeded and returned 0x12; the chip afterwards is the chip as the environment
    alone left it — the driver changed nothing, in particular no register, no FIFO content and
    no FIFO pointer. -/
theorem C17_create (c : SysCfg) (hc : c.cached = true) (s : Sys) (sched : List (Nat × Env)) (faults : List (Nat × Code)) :
    let st := s.step c (.api .create sched faults)
    let res := versionRead sched faults s.world.chip
    st.2 = .ret (createResult c.cap (res.map UInt32.toUInt8)).1 [] [.r 0x42 1 res] ∧
    st.1.handle = some (createResult c.cap (res.map UInt32.toUInt8)).2 ∧
    st.1.world.chip = chipAfter sched (chipBefore sched s.world.chip) := by
  intro st res
  have hst : st = s.step c (.api .create sched faults) := rfl
  unfold Sys.step at hst
  simp only [Api.isCreate, Bool.not_true, Bool.false_eq_true, and_false, ↓reduceIte] at hst
  rw [create_is_one_read] at hst
  unfold exec at hst
  have hcc : c.toCfg.cached = true := hc
  rw [hcc] at hst
  simp only [execG, Shadow.rread, Bool.not_true, Bool.false_eq_true, ↓reduceIte, fresh_42.1, fresh_42.2.1,
    fresh_42.2.2, show ¬ (Gen.REGVERSION ≥ 0x71) by decide, Shadow.rreadMiss, World.busRead, World.pre] at hst
  cases hf : faultAt0 faults with
  | some code =>
    have hres : res = .error code := by simp only [res, versionRead, hf]
    unfold faultAt0 at hf
    simp only [hf] at hst
    rw [hst, hres]
    refine ⟨rfl, rfl, ?_⟩
    simp only [chipAfter, chipBefore]
  | none =>
    have hres : res = .ok (be32 [(chipBefore sched s.world.chip).peek 0x42]) := by simp only [res, versionRead, hf]
    unfold faultAt0 at hf
    simp only [hf, Gen.REGVERSION, readN_one _ 0x42 (by decide), show (0x42 % 128) = 0x42 from rfl] at hst
    rw [hst, hres]
    simp only [Except.map, be32_single]
    refine ⟨rfl, rfl, ?_⟩
    simp only [chipAfter, chipBefore]

/-- `sx127x_create` reports a usable handle only if the version register identifies an SX127x,
    for all 256 values of the register -/
theorem C17_version_check (cap : Nat) (v : UInt8) :
    ((createResult cap (.ok v)).1 = .ok .none ↔ v = 0x12) ∧
    ∀ code, (createResult cap (.error code)).1 = .error code := by
  refine ⟨?_, fun _ => rfl⟩
  unfold createResult
  simp only [show u8 Gen.SX127x_VERSION = 0x12 from rfl]
  split
  · rename_i h; simp [h]
  · rename_i h
    have : v = 0x12 := by simpa using h
    simp [this]

/-- without environment events, creation leaves the chip bit-identical -/
theorem C17_chip_untouched (c : SysCfg) (hc : c.cached = true) (s : Sys) (faults : List (Nat × Code)) :
    (s.step c (.api .create [] faults)).1.world.chip = s.world.chip :=
  (C17_create c hc s [] faults).2.2

theorem wp_rxSetCallback (cap fuel : Nat) (on : Bool) (h : Handle) (s : PState) :
    wp (Api.prog cap fuel (.rxSetCallback on)) h s (fun r h' s' =>
      r = .ok .none ∧ h' = { h with rxCb := on } ∧ s' = s) := by
  unfold Api.prog
  rw [wp_bind, wp_modH]
  simp only [wp_pure]
  exact ⟨by trivial, by trivial, by trivial⟩

/-- **C17, resume equivalence.** A radio in LoRa explicit-header receive mode raised RxDone
    while the host slept.  Discarding the old handle at that point, creating a fresh one on the
    same chip (version register 0x12) and registering the receive callback again, then handling
    the interrupt, reports exactly the same receive callback — same bytes, same length — as
    handling it on the old handle, whatever the old handle had cached, whatever configuration
    the chip holds, wherever the packet lies in the buffer.  (Build with the register cache,
    packet buffers of at least 255 bytes, an application that does nothing inside callbacks.) -/
theorem C17_resume (c : SysCfg) (hc : c.cached = true) (hnr : c.NoReact) (hcap : 255 ≤ c.cap)
    (s : Sys) (i : Inv s.world) (h : Handle) (hh : s.handle = some h)
    (hl : s.world.chip.isLora = true) (hver : s.world.chip.peek 0x42 = 0x12)
    (hm : h.activeModem = Gen.SX127x_MODULATION_LORA) (hcb : h.rxCb = true) (hexp : h.expected = 0)
    (hpk : 255 ≤ h.packet.length)
    (hcad : s.world.chip.lora.rd 0x12 &&& 0x04 = 0) (hcrc : s.world.chip.lora.rd 0x12 &&& 0x20 = 0)
    (hrx : s.world.chip.lora.rd 0x12 &&& 0x40 ≠ 0) :
    let resumed := ((s.step c (.api .create [] [])).1.step c (.api (.rxSetCallback true) [] [])).1
    ∃ cbs1 bus1 cbs2 bus2,
      (s.step c (.api .irq [] [])).2 = .ret (.ok .none) cbs1 bus1 ∧
      (resumed.step c (.api .irq [] [])).2 = .ret (.ok .none) cbs2 bus2 ∧
      cbs2.map (·.ev) = cbs1.map (·.ev) ∧ cbs1.length = 1 := by
  intro resumed
  obtain ⟨cbs1, bus1, hobs1, hev1, _, _⟩ := C05_cached c hc hnr s i h hh hl hm hcb hexp
    (by have := (s.world.chip.lora.rd 0x13).toNat_lt; omega) hcad hcrc hrx
  have hcr := C17_create c hc s [] []
  have hres : versionRead [] [] s.world.chip = .ok (be32 [0x12]) := by
    simp only [versionRead, faultAt0, chipBefore, List.foldl_nil, hver]
  rw [hres] at hcr
  simp only [Except.map, be32_single, createResult, show u8 Gen.SX127x_VERSION = 0x12 from rfl, ne_eq,
    not_true_eq_false, ↓reduceIte, chipAfter, chipBefore, List.foldl_nil] at hcr
  obtain ⟨_, hh1, hchip1⟩ := hcr
  have i1 : Inv (s.step c (.api .create [] [])).1.world := step_inv c hc s _ (fun e he => by cases he) i
  obtain ⟨r2, h2, ps2, _, _, _, hh2, hchip2, hq2, _, _, i2⟩ :=
    step_cached_of_wp c hc hnr _ i1 (.rxSetCallback true) trivial _ hh1 rfl _ (wp_rxSetCallback c.cap c.fuel true _ _)
  obtain ⟨_, hh2', hps2⟩ := hq2
  have hchipR : resumed.world.chip = s.world.chip := by
    show ((s.step c (.api .create [] [])).1.step c (.api (.rxSetCallback true) [] [])).1.world.chip = _
    rw [hchip2, hps2, hchip1]
  have hhR : resumed.handle = some { freshHandle c.cap with rxCb := true } := by
    show ((s.step c (.api .create [] [])).1.step c (.api (.rxSetCallback true) [] [])).1.handle = _
    rw [hh2, hh2']
  obtain ⟨cbs2, bus2, hobs2, hev2, _, _⟩ := C05_cached c hc hnr resumed i2 _ hhR (by rw [hchipR]; exact hl)
    rfl rfl rfl (by have := (resumed.world.chip.lora.rd 0x13).toNat_lt; simp [freshHandle]; omega) (by rw [hchipR]; exact hcad) (by rw [hchipR]; exact hcrc)
    (by rw [hchipR]; exact hrx)
  refine ⟨cbs1, bus1, cbs2, bus2, hobs1, hobs2, ?_, ?_⟩
  · rw [hev2, hev1, hchipR]
  · have := congrArg List.length hev1
    simpa using this

end Sx
