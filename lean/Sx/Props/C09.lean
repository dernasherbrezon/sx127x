import Sx.Lemmas.Cells
/-
  C09 — each configuration call changes exactly its own fields, to datasheet encoding.
-/
namespace Sx
open Mem Chip Sx.Model DM

attribute [local irreducible] DM.rread DM.sread DM.swrite DM.bwrite DM.bread DM.rawbread DM.cb DM.modH DM.setH
  DM.getH DM.fail DM.ub DM.attempt DM.pure' DM.bind' DM.ofExcept appendRegister wp Chip.setCell Chip.cell Chip.plain

/-- what a successful configuration call must leave behind: return OK, the handle `h'`, and the
    chip with exactly the listed bit fields updated -/
def Configures (x : DM Unit) (h : Handle) (c : Chip) (h' : Handle) (fs : List Field) : Prop :=
  wp x h ⟨c, [], []⟩ (fun r hh s' => r = .ok () ∧ hh = h' ∧ s'.chip = c.setFields fs)

/-- the modulation the handle holds and the register page the chip has selected agree -/
structure FskSide (h : Handle) (c : Chip) : Prop where
  modem : h.activeModem = Gen.SX127x_MODULATION_FSK ∨ h.activeModem = Gen.SX127x_MODULATION_OOK
  page : c.isLora = false

structure LoraSide (h : Handle) (c : Chip) : Prop where
  modem : h.activeModem = Gen.SX127x_MODULATION_LORA
  page : c.isLora = true

theorem FskSide.gate {h : Handle} {c : Chip} (s : FskSide h c) :
    ¬(h.activeModem ≠ Gen.SX127x_MODULATION_FSK ∧ h.activeModem ≠ Gen.SX127x_MODULATION_OOK) := by
  rcases s.modem with e | e <;> simp [e]

theorem LoraSide.gate {h : Handle} {c : Chip} (s : LoraSide h c) : h.activeModem = Gen.SX127x_MODULATION_LORA := s.modem

theorem LoraSide.passes {h : Handle} {c : Chip} (s : LoraSide h c) : ¬h.activeModem ≠ Gen.SX127x_MODULATION_LORA :=
  fun hn => hn s.modem

/-- a call that checks the modulation (`gate`: the check passes) and then writes plain registers
    on the page `page` selects: symbolic execution, then the final chip is the field list -/
macro "c09_side" gate:term "," page:term : tactic => `(tactic| (
  have hgate := $gate
  have hl := $page
  simp only [wp_bind, wp_checkFskOok, wp_checkModulation, if_neg hgate]
  c09_run
  refine ⟨rfl, rfl, ?_⟩
  c09_fields))

theorem C09_fsk_ook_set_crc (crc : Nat) (h : Handle) (c : Chip) (s : FskSide h c) :
    Configures (fskOokSetCrc crc) h c { h with crcType := crc } [⟨0x30, 0x19, u8 crc⟩] := by
  unfold Configures fskOokSetCrc
  c09_side s.gate, s.page

theorem C09_fsk_ook_set_packet_encoding (e : Nat) (h : Handle) (c : Chip) (s : FskSide h c) :
    Configures (fskOokSetPacketEncoding e) h c h [⟨0x30, 0x60, u8 e⟩] := by
  unfold Configures fskOokSetPacketEncoding
  c09_side s.gate, s.page

theorem C09_fsk_ook_rx_set_collision_restart (e : Bool) (thr : UInt8) (h : Handle) (c : Chip) (s : FskSide h c) :
    Configures (fskOokRxSetCollisionRestart e thr) h c h [⟨0x0f, 0xff, thr⟩, ⟨0x0d, 0x80, sel e 0x80 0x00⟩] := by
  unfold Configures fskOokRxSetCollisionRestart
  c09_side s.gate, s.page

theorem C09_fsk_ook_rx_set_afc_auto (a : Bool) (h : Handle) (c : Chip) (s : FskSide h c) :
    Configures (fskOokRxSetAfcAuto a) h c h [⟨0x0d, 0x10, sel a 0x10 0x00⟩] := by
  unfold Configures fskOokRxSetAfcAuto
  c09_side s.gate, s.page

theorem C09_fsk_ook_rx_set_trigger (t : Nat) (h : Handle) (c : Chip) (s : FskSide h c) :
    Configures (fskOokRxSetTrigger t) h c h [⟨0x0d, 0x07, u8 t⟩] := by
  unfold Configures fskOokRxSetTrigger
  c09_side s.gate, s.page

theorem C09_fsk_ook_rx_set_afc_bandwidth (bw : F) (h : Handle) (c : Chip) (s : FskSide h c) :
    Configures (fskOokRxSetAfcBandwidth bw) h c h [⟨0x13, 0xff, calculateBwRegister bw⟩] := by
  unfold Configures fskOokRxSetAfcBandwidth
  c09_side s.gate, s.page

theorem C09_fsk_ook_rx_set_bandwidth (bw : F) (h : Handle) (c : Chip) (s : FskSide h c) :
    Configures (fskOokRxSetBandwidth bw) h c h [⟨0x12, 0xff, calculateBwRegister bw⟩] := by
  unfold Configures fskOokRxSetBandwidth
  c09_side s.gate, s.page

theorem C09_fsk_ook_set_preamble_type (t : Nat) (h : Handle) (c : Chip) (s : FskSide h c) :
    Configures (fskOokSetPreambleType t) h c h [⟨0x27, 0x20, u8 t⟩] := by
  unfold Configures fskOokSetPreambleType
  c09_side s.gate, s.page

theorem C09_fsk_ook_set_temp_monitor (e : Bool) (h : Handle) (c : Chip) (s : FskSide h c) :
    Configures (fskOokSetTempMonitor e) h c h [⟨0x3b, 0x01, sel e 0x00 0x01⟩] := by
  unfold Configures fskOokSetTempMonitor
  c09_side s.gate, s.page

theorem C09_fsk_ook_set_packet_encoding_and_crc_share_a_register : (0x60 : UInt8) &&& 0x19 = 0 := by decide

theorem C09_fsk_ook_rx_set_rssi_config (sm : Nat) (off : Int) (hoff : ¬(off < -16 ∨ off > 15)) (h : Handle) (c : Chip)
    (s : FskSide h c) :
    Configures (fskOokRxSetRssiConfig sm off) h c h
      [⟨0x0e, 0xff, ((UInt8.ofNat (off % 256).toNat) <<< 3) ||| u8 sm⟩] := by
  unfold Configures fskOokRxSetRssiConfig
  have hgate := s.gate
  have hl := s.page
  simp only [wp_bind, wp_checkFskOok, if_neg hgate]
  rw [wp_ite, if_neg hoff]
  c09_run
  refine ⟨rfl, rfl, ?_⟩
  c09_fields

theorem C09_fsk_ook_rx_set_preamble_detector (e : Bool) (size tol : UInt8) (hs : ¬(size > 3 ∨ size < 1)) (h : Handle)
    (c : Chip) (s : FskSide h c) :
    Configures (fskOokRxSetPreambleDetector e size tol) h c h
      [⟨0x1f, 0xff, sel e 0x80 0x00 ||| ((size - 1) <<< 5) ||| (tol &&& 0x1f)⟩] := by
  unfold Configures fskOokRxSetPreambleDetector
  have hgate := s.gate
  have hl := s.page
  simp only [wp_bind, wp_checkFskOok, if_neg hgate]
  rw [wp_ite, if_neg hs]
  c09_run
  refine ⟨rfl, rfl, ?_⟩
  c09_fields

theorem C09_fsk_ook_set_packet_format (fmt : Nat) (len : UInt16)
    (hv : ¬(fmt = Gen.SX127X_FIXED ∧ (len.toNat = 0 ∨ len.toNat > Gen.MAX_PACKET_SIZE_FSK_FIXED)))
    (hv2 : ¬(fmt = Gen.SX127X_VARIABLE ∧ (len.toNat = 0 ∨ (len.toNat > Gen.MAX_PACKET_SIZE ∧ len.toNat ≠ Gen.MAX_PACKET_SIZE_FSK_FIXED))))
    (h : Handle) (c : Chip) (s : FskSide h c) :
    Configures (fskOokSetPacketFormat fmt len) h c { h with format := fmt }
      [⟨0x31, 0x07, u8 ((len.toNat / 256) % 8)⟩, ⟨0x32, 0xff, u8 len.toNat⟩, ⟨0x30, 0x80, u8 fmt⟩] := by
  unfold Configures fskOokSetPacketFormat
  have hgate := s.gate
  have hl := s.page
  simp only [wp_bind, wp_checkFskOok, if_neg hgate]
  rw [wp_ite, if_neg hv, wp_ite, if_neg hv2]
  c09_run
  refine ⟨rfl, rfl, ?_⟩
  c09_fields

/-- address filtering: the node and broadcast address registers are written only for the modes
    that use them -/
theorem C09_fsk_ook_set_address_filtering (t : Nat) (node bcast : UInt8) (h : Handle) (c : Chip) (s : FskSide h c) :
    Configures (fskOokSetAddressFiltering t node bcast) h c h
      ((if t = Gen.SX127X_FILTER_NODE_AND_BROADCAST then [⟨0x34, 0xff, bcast⟩] else []) ++
       (if t = Gen.SX127X_FILTER_NODE_AND_BROADCAST ∨ t = Gen.SX127X_FILTER_NODE_ADDRESS then [⟨0x33, 0xff, node⟩] else []) ++
       [⟨0x30, 0x06, u8 t⟩]) := by
  unfold Configures fskOokSetAddressFiltering
  have hgate := s.gate
  have hl := s.page
  simp only [wp_bind, wp_checkFskOok, if_neg hgate]
  by_cases h1 : t = Gen.SX127X_FILTER_NODE_AND_BROADCAST
  · have h2 : t = Gen.SX127X_FILTER_NODE_AND_BROADCAST ∨ t = Gen.SX127X_FILTER_NODE_ADDRESS := Or.inl h1
    rw [wp_ite, if_pos h1]
    c09_run
    rw [wp_ite, if_pos h2]
    c09_run
    refine ⟨rfl, rfl, ?_⟩
    simp only [if_pos h1, if_pos h2, List.cons_append, List.nil_append]
    c09_fields
  · rw [wp_ite, if_neg h1]
    c09_run
    by_cases h2 : t = Gen.SX127X_FILTER_NODE_AND_BROADCAST ∨ t = Gen.SX127X_FILTER_NODE_ADDRESS
    · rw [wp_ite, if_pos h2]
      c09_run
      refine ⟨rfl, rfl, ?_⟩
      simp only [if_neg h1, if_pos h2, List.cons_append, List.nil_append]
      c09_fields
    · rw [wp_ite, if_neg h2]
      c09_run
      refine ⟨rfl, rfl, ?_⟩
      simp only [if_neg h1, if_neg h2, List.nil_append]
      c09_fields

/-- `sx127x_fsk_ook_set_syncword`: every sync word of 1..8 non-zero bytes; the size field, the
    sync-on bit and auto-restart mode of RegSyncConfig and the first `n` sync value registers -/
theorem C09_fsk_ook_set_syncword (sw : List UInt8) (hlen : ¬(sw.length = 0 ∨ sw.length > 8))
    (hnz : sw.any (· = 0) = false) (h : Handle) (c : Chip) (s : FskSide h c) :
    Configures (fskOokSetSyncword sw) h c h (⟨0x27, 0xd7, 0x50 ||| u8 (sw.length - 1)⟩ :: regFields 0x28 sw) := by
  unfold Configures fskOokSetSyncword
  have hgate := FskSide.gate s
  have hl := FskSide.page s
  simp only [wp_bind, wp_checkFskOok, if_neg hgate]
  rw [wp_ite, if_neg hlen, wp_ite, hnz]
  rw [if_neg (by decide), wp_bind, wp_appendRegister_plain]
  case hp => plain_tac
  dsimp only
  rw [wp_bwrite]
  refine ⟨rfl, rfl, ?_⟩
  show Chip.writeN _ Gen.REGSYNCVALUE1 sw = _
  rw [writeN_regFields]
  · simp only [Chip.setFields, List.foldl, Chip.setField]
    have : (40 : UInt8) = ~~~215 := by decide
    rw [this]
  · intro i hi
    refine plain_set _ _ _ _ (by decide) ?_
    exact plain_fsk _ hl _ (by unfold Gen.REGSYNCVALUE1; omega)

example : regFields 0x28 [0x12, 0xad] = [⟨0x28, 0xff, 0x12⟩, ⟨0x29, 0xff, 0xad⟩] := rfl

structure OokSide (h : Handle) (c : Chip) : Prop where
  modem : h.activeModem = Gen.SX127x_MODULATION_OOK
  page : c.isLora = false

theorem OokSide.passes {h : Handle} {c : Chip} (s : OokSide h c) : ¬h.activeModem ≠ Gen.SX127x_MODULATION_OOK :=
  fun hn => hn s.modem

theorem C09_ook_rx_set_peak_mode (step : Nat) (floor : UInt8) (dec : Nat) (h : Handle) (c : Chip) (s : OokSide h c) :
    Configures (ookRxSetPeakMode step floor dec) h c h
      [⟨0x15, 0xff, floor⟩, ⟨0x16, 0xe0, u8 dec⟩, ⟨0x14, 0x1f, u8 (0x08 ||| step)⟩] := by
  unfold Configures ookRxSetPeakMode
  c09_side s.passes, s.page

theorem C09_ook_rx_set_fixed_mode (thr : UInt8) (h : Handle) (c : Chip) (s : OokSide h c) :
    Configures (ookRxSetFixedMode thr) h c h [⟨0x15, 0xff, thr⟩, ⟨0x14, 0x18, 0x00⟩] := by
  unfold Configures ookRxSetFixedMode
  c09_side s.passes, s.page

theorem C09_ook_rx_set_avg_mode (off thr : Nat) (h : Handle) (c : Chip) (s : OokSide h c) :
    Configures (ookRxSetAvgMode off thr) h c h [⟨0x16, 0x0f, u8 (off ||| thr)⟩, ⟨0x14, 0x18, 0x10⟩] := by
  unfold Configures ookRxSetAvgMode
  c09_side s.passes, s.page

theorem C09_ook_set_data_shaping (sh ramp : Nat) (h : Handle) (c : Chip) (s : OokSide h c) :
    Configures (ookSetDataShaping sh ramp) h c h [⟨0x0a, 0xff, u8 (sh ||| ramp)⟩] := by
  unfold Configures ookSetDataShaping
  c09_side s.passes, s.page

theorem C09_lora_set_syncword (v : UInt8) (h : Handle) (c : Chip) (s : LoraSide h c) :
    Configures (loraSetSyncword v) h c h [⟨0x39, 0xff, v⟩] := by
  unfold Configures loraSetSyncword
  c09_side s.passes, s.page

theorem C09_lora_reset_fifo (h : Handle) (c : Chip) (s : LoraSide h c) :
    Configures loraResetFifo h c h [⟨0x0e, 0xff, 0x00⟩, ⟨0x0f, 0xff, 0x00⟩] := by
  unfold Configures loraResetFifo
  c09_side s.passes, s.page

theorem C09_lora_set_low_datarate_optimization (e : Bool) (h : Handle) (c : Chip) (s : LoraSide h c) :
    Configures (loraSetLowDatarateOptimization e) h c h [⟨0x26, 0x08, sel e 0x08 0x00⟩] := by
  unfold Configures loraSetLowDatarateOptimization
  c09_side s.passes, s.page

theorem C09_lora_set_implicit_header (len : UInt8) (crc : Bool) (cr : Nat) (h : Handle) (c : Chip) (s : LoraSide h c) :
    Configures (loraSetImplicitHeader (some (len, crc, cr))) h c { h with expected := len.toUInt16, implicitHeader := true }
      [⟨0x1d, 0x0f, u8 (0x01 ||| cr)⟩, ⟨0x22, 0xff, len⟩, ⟨0x1e, 0x04, sel crc 0x04 0x00⟩] := by
  unfold Configures loraSetImplicitHeader
  c09_side s.passes, s.page

theorem C09_lora_set_explicit_header (h : Handle) (c : Chip) (s : LoraSide h c) :
    Configures (loraSetImplicitHeader none) h c { h with expected := 0, implicitHeader := false } [⟨0x1d, 0x01, 0x00⟩] := by
  unfold Configures loraSetImplicitHeader
  c09_side s.passes, s.page

theorem C09_lora_tx_set_explicit_header (crc : Bool) (cr : Nat) (h : Handle) (c : Chip) (s : LoraSide h c) :
    Configures (loraTxSetExplicitHeader (some (crc, cr))) h c { h with implicitHeader := false, expected := 0 }
      [⟨0x1d, 0x0f, u8 (cr ||| 0x00)⟩, ⟨0x1e, 0x04, sel crc 0x04 0x00⟩] := by
  unfold Configures loraTxSetExplicitHeader
  c09_side s.passes, s.page

theorem C09_lora_set_frequency_hopping (period : UInt8) (l : List UInt64) (len : UInt8) (hlen : len ≠ 0) (h : Handle)
    (c : Chip) (s : LoraSide h c) :
    Configures (loraSetFrequencyHopping period (some l) len) h c { h with freqs := some l, freqLen := len }
      [⟨0x24, 0xff, period⟩] := by
  unfold Configures loraSetFrequencyHopping
  have hgate := s.gate
  have hl := s.page
  simp only [wp_bind, wp_checkModulation]
  rw [if_neg (fun hn => hn hgate), wp_ite, if_neg hlen]
  c09_run
  refine ⟨rfl, rfl, ?_⟩
  c09_fields

theorem C09_rx_set_lna_boost_hf (e : Bool) (h : Handle) (c : Chip) :
    Configures (rxSetLnaBoostHf e) h c h [⟨0x0c, 0x03, sel e 0x03 0x00⟩] := by
  unfold Configures rxSetLnaBoostHf
  c09_run
  refine ⟨rfl, rfl, ?_⟩
  c09_fields

theorem C09_set_preamble_length_lora (v : UInt16) (h : Handle) (c : Chip) (s : LoraSide h c) :
    Configures (setPreambleLength v) h c h [⟨0x20, 0xff, (v >>> 8).toUInt8⟩, ⟨0x21, 0xff, v.toUInt8⟩] := by
  unfold Configures setPreambleLength
  have hgate := s.gate
  have hl := s.page
  simp only [wp_bind, wp_getH]
  rw [wp_ite, if_pos hgate]
  c09_run
  refine ⟨rfl, rfl, ?_⟩
  c09_fields

theorem C09_set_preamble_length_fsk (v : UInt16) (h : Handle) (c : Chip) (s : FskSide h c) :
    Configures (setPreambleLength v) h c h [⟨0x25, 0xff, (v >>> 8).toUInt8⟩, ⟨0x26, 0xff, v.toUInt8⟩] := by
  unfold Configures setPreambleLength
  have hl := s.page
  have hnl : ¬h.activeModem = Gen.SX127x_MODULATION_LORA := by
    rcases s.modem with e | e <;> rw [e] <;> decide
  simp only [wp_bind, wp_getH]
  rw [wp_ite, if_neg hnl, wp_ite, if_pos s.modem]
  c09_run
  refine ⟨rfl, rfl, ?_⟩
  c09_fields

theorem C09_rx_set_lna_gain_lora_auto (h : Handle) (c : Chip) (s : LoraSide h c) :
    Configures (rxSetLnaGain Gen.SX127x_LNA_GAIN_AUTO) h c h [⟨0x26, 0x04, 0x04⟩] := by
  unfold Configures rxSetLnaGain
  have hgate := s.gate
  have hl := s.page
  simp only [wp_bind, wp_getH]
  rw [wp_ite, if_pos hgate, wp_ite, if_pos (by first | trivial | rfl | decide)]
  c09_run
  refine ⟨rfl, rfl, ?_⟩
  c09_fields

theorem C09_rx_set_lna_gain_lora (g : Nat) (hg : g ≠ Gen.SX127x_LNA_GAIN_AUTO) (h : Handle) (c : Chip) (s : LoraSide h c) :
    Configures (rxSetLnaGain g) h c h [⟨0x26, 0x04, 0x00⟩, ⟨0x0c, 0xe0, u8 g⟩] := by
  unfold Configures rxSetLnaGain
  have hgate := s.gate
  have hl := s.page
  simp only [wp_bind, wp_getH]
  rw [wp_ite, if_pos hgate, wp_ite, if_neg hg]
  c09_run
  refine ⟨rfl, rfl, ?_⟩
  c09_fields

theorem C09_rx_set_lna_gain_fsk_auto (h : Handle) (c : Chip) (s : FskSide h c) :
    Configures (rxSetLnaGain Gen.SX127x_LNA_GAIN_AUTO) h c h [⟨0x0d, 0x08, 0x08⟩] := by
  unfold Configures rxSetLnaGain
  have hl := s.page
  have hnl : ¬h.activeModem = Gen.SX127x_MODULATION_LORA := by
    rcases s.modem with e | e <;> rw [e] <;> decide
  simp only [wp_bind, wp_getH]
  rw [wp_ite, if_neg hnl, wp_ite, if_pos s.modem, wp_ite, if_pos (by first | trivial | rfl | decide)]
  c09_run
  refine ⟨rfl, rfl, ?_⟩
  c09_fields

theorem C09_rx_set_lna_gain_fsk (g : Nat) (hg : g ≠ Gen.SX127x_LNA_GAIN_AUTO) (h : Handle) (c : Chip) (s : FskSide h c) :
    Configures (rxSetLnaGain g) h c h [⟨0x0d, 0x08, 0x00⟩, ⟨0x0c, 0xe0, u8 g⟩] := by
  unfold Configures rxSetLnaGain
  have hl := s.page
  have hnl : ¬h.activeModem = Gen.SX127x_MODULATION_LORA := by
    rcases s.modem with e | e <;> rw [e] <;> decide
  simp only [wp_bind, wp_getH]
  rw [wp_ite, if_neg hnl, wp_ite, if_pos s.modem, wp_ite, if_neg hg]
  c09_run
  refine ⟨rfl, rfl, ?_⟩
  c09_fields

/-- over-current protection: RegOcp is written as a whole (OcpOn and OcpTrim; bits 7-6 unused) -/
theorem C09_tx_set_ocp_off (ma : UInt8) (hma : ¬ma < 45) (h : Handle) (c : Chip) :
    Configures (txSetOcp false ma) h c h [⟨0x0b, 0xff, 0x00⟩] := by
  unfold Configures txSetOcp
  rw [wp_ite, if_neg hma, wp_ite, if_pos (by first | trivial | rfl | decide)]
  c09_run
  refine ⟨rfl, rfl, ?_⟩
  c09_fields

/-- the datasheet's OcpTrim encoding: 45..120 mA in 5 mA steps, 130..240 mA in 10 mA steps -/
def ocpTrim (ma : UInt8) : UInt8 :=
  if ma ≤ 120 then (ma - 45) / 5 else if ma ≤ 240 then u8 ((ma.toNat + 30) / 10) else 27

theorem C09_tx_set_ocp_on (ma : UInt8) (hma : ¬ma < 45) (h : Handle) (c : Chip) :
    Configures (txSetOcp true ma) h c h [⟨0x0b, 0xff, ocpTrim ma ||| 0x20⟩] := by
  unfold Configures txSetOcp
  rw [wp_ite, if_neg hma, wp_ite, if_neg (by first | (intro e; cases e) | decide)]
  dsimp only
  c09_run
  refine ⟨rfl, rfl, ?_⟩
  c09_fields

theorem C09_fsk_set_data_shaping (sh ramp : Nat) (h : Handle) (c : Chip)
    (hm : h.activeModem = Gen.SX127x_MODULATION_FSK) (hl : c.isLora = false) :
    Configures (fskSetDataShaping sh ramp) h c h [⟨0x0a, 0xff, u8 (sh ||| ramp)⟩] := by
  unfold Configures fskSetDataShaping
  simp only [wp_bind, wp_checkModulation]
  rw [if_neg (fun hn => hn hm)]
  c09_run
  refine ⟨rfl, rfl, ?_⟩
  c09_fields

-- `¬¬`: the driver's test is `if (!(lo <= x && x <= hi))`, which also refuses NaN; `hv` negates it as it stands
theorem C09_fsk_set_fdev (fdev : F) (hv : ¬¬(F.le (F.fin 600) fdev ∧ F.le fdev (F.fin 200000))) (v : Nat)
    (hval : fdevValue fdev = some v) (h : Handle) (c : Chip)
    (hm : h.activeModem = Gen.SX127x_MODULATION_FSK) (hl : c.isLora = false) :
    Configures (fskSetFdev fdev) h c h [⟨0x04, 0xff, u8 (v / 256)⟩, ⟨0x05, 0xff, u8 v⟩] := by
  unfold Configures fskSetFdev
  simp only [wp_bind, wp_checkModulation]
  rw [if_neg (fun hn => hn hm), wp_ite, if_neg hv]
  simp only [hval]
  c09_run
  refine ⟨rfl, rfl, ?_⟩
  c09_fields

theorem C09_set_frequency (f : UInt64) (d0 d1 d2 : UInt8) (hval : frfOf f = some [d0, d1, d2]) (h : Handle) (c : Chip) :
    Configures (setFrequency f) h c h [⟨0x06, 0xff, d0⟩, ⟨0x07, 0xff, d1⟩, ⟨0x08, 0xff, d2⟩] := by
  unfold Configures setFrequency
  simp only [hval]
  c09_run
  refine ⟨rfl, rfl, ?_⟩
  c09_fields

theorem C09_fsk_ook_set_bitrate_fsk (b : F) (hv : ¬¬(F.le (F.fin 1200) b ∧ F.le b (F.fin 300000))) (v : Nat)
    (hval : fskBitrateValue b = some v) (h : Handle) (c : Chip)
    (hm : h.activeModem = Gen.SX127x_MODULATION_FSK) (hl : c.isLora = false) :
    Configures (fskOokSetBitrate b) h c h
      [⟨0x02, 0xff, u8 (((v / 16) % 65536) / 256)⟩, ⟨0x03, 0xff, u8 ((v / 16) % 65536)⟩, ⟨0x5d, 0xff, u8 (v % 16)⟩] := by
  unfold Configures fskOokSetBitrate
  have hgate : ¬(h.activeModem ≠ Gen.SX127x_MODULATION_FSK ∧ h.activeModem ≠ Gen.SX127x_MODULATION_OOK) := by simp [hm]
  simp only [wp_bind, wp_checkFskOok, if_neg hgate, wp_getH]
  rw [wp_ite, if_pos hm, wp_ite, if_neg hv]
  simp only [hval]
  c09_run
  refine ⟨rfl, rfl, ?_⟩
  c09_fields

theorem C09_fsk_ook_set_bitrate_ook (b : F) (hv : ¬¬(F.le (F.fin 1200) b ∧ F.le b (F.fin 25000))) (v : Nat)
    (hval : ookBitrateValue b = some v) (h : Handle) (c : Chip)
    (hm : h.activeModem = Gen.SX127x_MODULATION_OOK) (hl : c.isLora = false) :
    Configures (fskOokSetBitrate b) h c h
      [⟨0x02, 0xff, u8 (v / 256)⟩, ⟨0x03, 0xff, u8 v⟩, ⟨0x5d, 0xff, 0x00⟩] := by
  unfold Configures fskOokSetBitrate
  have hgate : ¬(h.activeModem ≠ Gen.SX127x_MODULATION_FSK ∧ h.activeModem ≠ Gen.SX127x_MODULATION_OOK) := by simp [hm]
  have hnf : ¬h.activeModem = Gen.SX127x_MODULATION_FSK := by rw [hm]; decide
  simp only [wp_bind, wp_checkFskOok, if_neg hgate, wp_getH]
  rw [wp_ite, if_neg hnf, wp_ite, if_pos hm, wp_ite, if_neg hv]
  simp only [hval]
  c09_run
  refine ⟨rfl, rfl, ?_⟩
  c09_fields

/-- RegPaConfig as the datasheet encodes pin and power: PaSelect (bit 7), MaxPower (6-4), OutputPower (3-0) -/
def paConfigValue (pin : Nat) (power : Int) : UInt8 :=
  let byteOfInt (i : Int) : UInt8 := UInt8.ofNat (i % 256).toNat
  if pin = Gen.SX127x_PA_PIN_RFO then
    (if power < 0 then (u8 Gen.SX127x_LOW_POWER ||| byteOfInt (power + 4)) else (u8 Gen.SX127x_MAX_POWER ||| byteOfInt power))
      ||| u8 Gen.SX127x_PA_PIN_RFO
  else
    (if power = 20 then u8 Gen.SX127x_PA_PIN_BOOST ||| 0x0f else u8 Gen.SX127x_PA_PIN_BOOST ||| byteOfInt (power - 2))

/-- power amplifier: RegPaDac, RegOcp and RegPaConfig are each written as a whole -/
theorem C09_tx_set_pa_config (pin : Nat) (power : Int)
    (h1 : ¬(pin = Gen.SX127x_PA_PIN_RFO ∧ (power < -4 ∨ power > 15)))
    (h2 : ¬(pin = Gen.SX127x_PA_PIN_BOOST ∧ (power < 2 ∨ power > 20 ∨ power = 18 ∨ power = 19)))
    (h : Handle) (c : Chip) :
    Configures (txSetPaConfig pin power) h c h
      [⟨0x4d, 0xff, if pin = Gen.SX127x_PA_PIN_BOOST ∧ power = 20 then u8 Gen.SX127x_HIGH_POWER_ON else u8 Gen.SX127x_HIGH_POWER_OFF⟩,
       ⟨0x0b, 0xff, ocpTrim (if pin = Gen.SX127x_PA_PIN_BOOST then (if power = 20 then 120 else 87) else 45) ||| 0x20⟩,
       ⟨0x09, 0xff, paConfigValue pin power⟩] := by
  unfold Configures txSetPaConfig txSetOcp
  rw [wp_ite, if_neg h1, wp_ite, if_neg h2]
  dsimp only
  have hmc : ¬(if pin = Gen.SX127x_PA_PIN_BOOST then (if power = 20 then (120 : UInt8) else 87) else 45) < 45 := by
    split <;> (try split) <;> decide
  c09_run
  rw [wp_ite, if_neg hmc, wp_ite, if_neg (by first | (intro e; cases e) | decide)]
  c09_run
  refine ⟨rfl, rfl, ?_⟩
  c09_fields

/-- `sx127x_lora_set_ppm_offset`: for every frequency error whose correction is representable
    (the carrier read back from RegFrf, the float expression of the driver in range, its conversion
    `v`): RegPpmCorrection holds the two's-complement byte of `v`, nothing else changes -/
theorem C09_lora_set_ppm_offset (e : Int) (h : Handle) (c : Chip) (s : LoraSide h c) (fr : Nat)
    (hfr : freqOfRaw (be32 [c.cell 6, c.cell 7, c.cell 8]) = some fr)
    (hrange : (F.gt (ppmFloat e fr) (.fin (-129)) && F.lt (ppmFloat e fr) (.fin 128)) = true) (v : Int)
    (hv : F.toSInt 8 (ppmFloat e fr) = some v) :
    Configures (loraSetPpmOffset e) h c h [⟨0x27, 0xff, UInt8.ofNat (v % 256).toNat⟩] := by
  unfold Configures loraSetPpmOffset getFrequency
  have hgate := LoraSide.gate s
  have hl := LoraSide.page s
  simp only [wp_bind, wp_checkModulation]
  rw [if_neg (fun hn => hn hgate), wp_sread]
  have h3 : c.readN Gen.REGFRFMSB 3 = ([c.cell 6, c.cell 7, c.cell 8], c) :=
    readN_plain3 c 6 (by plain_tac) (by plain_tac) (by plain_tac)
  simp only [h3, hfr, wp_pure]
  rw [wp_ite, if_neg (by rw [hrange]; decide)]
  simp only [hv]
  c09_run
  refine ⟨rfl, rfl, ?_⟩
  c09_fields

/-- non-vacuity: at 868 MHz a measured error of 10 kHz satisfies the three hypotheses (correction 10) -/
example : freqOfRaw (be32 [0xd9, 0, 0]) = some 868000000
    ∧ (F.gt (ppmFloat 10000 868000000) (.fin (-129)) && F.lt (ppmFloat 10000 868000000) (.fin 128)) = true
    ∧ F.toSInt 8 (ppmFloat 10000 868000000) = some 10 := by decide +kernel

/-- `sx127x_fsk_ook_rx_calibrate` in standby with no calibration running: only ImageCalStart is
    set (the polling loop reads RegImageCal once and ends) -/
theorem C09_fsk_ook_rx_calibrate (fuel : Nat) (h : Handle) (c : Chip) (s : FskSide h c)
    (hst : h.opmod = Gen.SX127x_MODE_STANDBY) (hidle : c.cell 0x3b &&& 0x20 = 0) (wf : c.WF) :
    Configures (fskOokRxCalibrate (fuel + 1)) h c h [⟨0x3b, 0x40, 0x40⟩] := by
  unfold Configures fskOokRxCalibrate calibrateLoop
  have hgate := FskSide.gate s
  have hl := FskSide.page s
  simp only [wp_bind, wp_checkFskOok, if_neg hgate, wp_getH]
  rw [wp_ite, if_neg (fun hn => hn hst)]
  c09_run
  have hcell : (c.setCell Gen.REGIMAGECAL (c.cell Gen.REGIMAGECAL &&& 191 ||| 64)).cell Gen.REGIMAGECAL
      = c.cell Gen.REGIMAGECAL &&& 191 ||| 64 := cell_setCell_same c wf _ _ (by decide)
  -- starting the calibration (bit 6) does not touch the running flag (bit 5)
  have hbit : ∀ x : UInt8, x &&& 32 = 0 → ¬((x &&& 191 ||| 64) &&& 32 = 32) := fun x hx e => by
    rw [or_mask_off _ (by decide : (64 : UInt8) &&& 32 = 0), and_mask_keep x (by decide : (191 : UInt8) &&& 32 = 32), hx] at e
    exact absurd e (by decide)
  rw [wp_ite, hcell, if_neg (hbit _ hidle), wp_pure]
  refine ⟨rfl, rfl, ?_⟩
  simp only [Chip.setFields, List.foldl, Chip.setField]
  have : (191 : UInt8) = ~~~64 := by decide
  rw [this]

/-- **C09, frame rule.** If a call configures the field list `fs` (each on a plain register, each
    value inside its field), then after the call: in every register, every bit outside the fields
    listed for that register has the value it had before (take `M = 0` for a register that is not
    listed); the page selection, the LoRa data buffer and the FIFO are unchanged. -/
theorem C09_frame {x : DM Unit} {h h' : Handle} {c : Chip} {fs : List Field} (hc : Configures x h c h' fs)
    (wf : c.WF) (hok : ∀ f ∈ fs, f.Ok c) :
    wp x h ⟨c, [], []⟩ (fun r hh s' => r = .ok () ∧ hh = h' ∧
      (∀ b M, (∀ f ∈ fs, f.reg = b → f.mask &&& ~~~ M = 0) → s'.chip.cell b &&& ~~~ M = c.cell b &&& ~~~ M) ∧
      s'.chip.isLora = c.isLora ∧ s'.chip.buf = c.buf ∧ s'.chip.fifo = c.fifo) := by
  refine wp_mono _ _ _ _ _ ?_ hc
  intro r hh s' ⟨e1, e2, e3⟩
  refine ⟨e1, e2, ?_, ?_, ?_, ?_⟩
  · intro b M hM; rw [e3]; exact (setFields_frame fs c wf hok b M hM).1
  · rw [e3]; exact (setFields_frame fs c wf hok 0 0xff (fun f _ _ => and_not_ff f.mask)).2.1
  · rw [e3]; exact (setFields_frame fs c wf hok 0 0xff (fun f _ _ => and_not_ff f.mask)).2.2.1
  · rw [e3]; exact (setFields_frame fs c wf hok 0 0xff (fun f _ _ => and_not_ff f.mask)).2.2.2.1

/-- and the field itself holds the value -/
theorem C09_single_field_value (c : Chip) (wf : c.WF) (f : Field) (hok : f.Ok c) :
    (c.setFields [f]).cell f.reg &&& f.mask = f.value := (setField_frame c wf f hok).2.1

/-- **C09, documented arguments fit their fields.** Every enumerator of the header, encoded as the
    driver encodes it, lies inside the field its setter owns (obligation on the regenerated
    enumerator lists, decided in the kernel), so `Field.Ok` holds for every documented argument. -/
theorem C09_enumerators_fit_their_fields :
    (∀ e ∈ Gen.enum_sx127x_crc_type_t, u8 e &&& ~~~ (0x19 : UInt8) = 0) ∧
    (∀ e ∈ Gen.enum_sx127x_packet_encoding_t, u8 e &&& ~~~ (0x60 : UInt8) = 0) ∧
    (∀ e ∈ Gen.enum_sx127x_rx_trigger_t, u8 e &&& ~~~ (0x07 : UInt8) = 0) ∧
    (∀ e ∈ Gen.enum_sx127x_preamble_type_t, u8 e &&& ~~~ (0x20 : UInt8) = 0) ∧
    (∀ e ∈ Gen.enum_sx127x_packet_format_t, u8 e &&& ~~~ (0x80 : UInt8) = 0) ∧
    (∀ e ∈ Gen.enum_sx127x_address_filtering_t, u8 e &&& ~~~ (0x06 : UInt8) = 0) ∧
    (∀ e ∈ Gen.enum_sx127x_gain_t, u8 e &&& ~~~ (0xe0 : UInt8) = 0) ∧
    (∀ e ∈ Gen.enum_sx127x_ook_peak_thresh_step_t, u8 (0x08 ||| e) &&& ~~~ (0x1f : UInt8) = 0) ∧
    (∀ e ∈ Gen.enum_sx127x_ook_peak_thresh_dec_t, u8 e &&& ~~~ (0xe0 : UInt8) = 0) ∧
    (∀ o ∈ Gen.enum_sx127x_ook_avg_offset_t, ∀ t ∈ Gen.enum_sx127x_ook_avg_thresh_t, u8 (o ||| t) &&& ~~~ (0x0f : UInt8) = 0) ∧
    (∀ e ∈ Gen.enum_sx127x_cr_t, u8 (0x01 ||| e) &&& ~~~ (0x0f : UInt8) = 0 ∧ u8 (e ||| 0x00) &&& ~~~ (0x0f : UInt8) = 0) ∧
    (∀ b : Bool, sel b 0x80 0x00 &&& ~~~ (0x80 : UInt8) = 0 ∧ sel b 0x10 0x00 &&& ~~~ (0x10 : UInt8) = 0 ∧
      sel b 0x08 0x00 &&& ~~~ (0x08 : UInt8) = 0 ∧ sel b 0x04 0x00 &&& ~~~ (0x04 : UInt8) = 0 ∧
      sel b 0x03 0x00 &&& ~~~ (0x03 : UInt8) = 0 ∧ sel b 0x00 0x01 &&& ~~~ (0x01 : UInt8) = 0) := by
  decide

/-- fields of different setters that share a register do not overlap -/
theorem C09_fields_sharing_a_register_are_disjoint :
    (0x19 : UInt8) &&& 0x60 = 0 ∧ (0x19 : UInt8) &&& 0x80 = 0 ∧ (0x19 : UInt8) &&& 0x06 = 0 ∧ (0x60 : UInt8) &&& 0x86 = 0 ∧
    (0x80 : UInt8) &&& 0x17 = 0 ∧ (0x10 : UInt8) &&& 0x0f = 0 ∧ (0x08 : UInt8) &&& 0x07 = 0 ∧
    (0xe0 : UInt8) &&& 0x0f = 0 ∧ (0x1f : UInt8) &&& 0x20 = 0 ∧ (0xe0 : UInt8) &&& 0x03 = 0 ∧
    (0x0f : UInt8) &&& 0xf0 = 0 ∧ (0x04 : UInt8) &&& 0xf0 = 0 ∧ (0x08 : UInt8) &&& 0x04 = 0 := by decide

/-- non-vacuity: the power-on chip with an FSK handle is on the FSK side and its RegPacketConfig1 is plain -/
example : FskSide { activeModem := Gen.SX127x_MODULATION_FSK } Chip.init ∧
    Field.Ok Chip.init ⟨0x30, 0x19, u8 Gen.SX127X_CRC_CCITT⟩ := by
  refine ⟨⟨Or.inl rfl, by decide⟩, ?_, by decide⟩
  exact plain_fsk _ (by decide) _ (by decide)

/-! ### the constants of the header are the datasheet's

The theorems above are generic in the constants regenerated from `include/*.h`: a setter is
proved to store *its argument* in *its register*.  That the named register is the datasheet's
address and the named enumerator the datasheet's encoding is a separate obligation, stated here
with literals: the register addresses the model uses, and every enumerator a caller can pass to a
configuration function (bandwidths and spreading factors: C13; the DIO mappings: C15). -/

/-- register addresses (datasheet tables 41 and 42) -/
theorem C09_register_map_is_datasheet :
    Gen.REGFIFO = 0x00 ∧
    Gen.REGOPMODE = 0x01 ∧
    Gen.REGBITRATEMSB = 0x02 ∧
    Gen.REGFDEVMSB = 0x04 ∧
    Gen.REGFRFMSB = 0x06 ∧
    Gen.REGPACONFIG = 0x09 ∧
    Gen.REGPARAMP = 0x0a ∧
    Gen.REGOCP = 0x0b ∧
    Gen.REGLNA = 0x0c ∧
    Gen.REGFIFOADDRPTR = 0x0d ∧
    Gen.REGRXCONFIG = 0x0d ∧
    Gen.REGFIFOTXBASEADDR = 0x0e ∧
    Gen.REGRSSICONFIG = 0x0e ∧
    Gen.REGRSSICOLLISION = 0x0f ∧
    Gen.REGFIFORXCURRENTADDR = 0x10 ∧
    Gen.REGRSSIVALUE_FSK = 0x11 ∧
    Gen.REGIRQFLAGS = 0x12 ∧
    Gen.REGRXBW = 0x12 ∧
    Gen.REGAFCBW = 0x13 ∧
    Gen.REGRXNBBYTES = 0x13 ∧
    Gen.REGOOKPEAK = 0x14 ∧
    Gen.REGOOKFIX = 0x15 ∧
    Gen.REGOOKAVG = 0x16 ∧
    Gen.REGPKTSNRVALUE = 0x19 ∧
    Gen.REGPKTRSSIVALUE = 0x1a ∧
    Gen.REGAFCMSB = 0x1b ∧
    Gen.REGMODEMCONFIG1 = 0x1d ∧
    Gen.REGMODEMCONFIG2 = 0x1e ∧
    Gen.REGPREAMBLEDETECT = 0x1f ∧
    Gen.REGPREAMBLEMSB = 0x20 ∧
    Gen.REGPAYLOADLENGTH = 0x22 ∧
    Gen.REGHOPPERIOD = 0x24 ∧
    Gen.REGPREAMBLEMSB_FSK = 0x25 ∧
    Gen.REGMODEMCONFIG3 = 0x26 ∧
    Gen.REGSYNCCONFIG = 0x27 ∧
    Gen.REGFEIMSB = 0x28 ∧
    Gen.REGSYNCVALUE1 = 0x28 ∧
    Gen.REGPACKETCONFIG1 = 0x30 ∧
    Gen.REGDETECTOPTIMIZE = 0x31 ∧
    Gen.REGPACKETCONFIG2 = 0x31 ∧
    Gen.REGPAYLOADLENGTH_FSK = 0x32 ∧
    Gen.REGNODEADRS = 0x33 ∧
    Gen.REGBROADCASTADRS = 0x34 ∧
    Gen.REGFIFOTHRESH = 0x35 ∧
    Gen.REGSEQCONFIG1 = 0x36 ∧
    Gen.REGDETECTIONTHRESHOLD = 0x37 ∧
    Gen.REGTIMERRESOL = 0x38 ∧
    Gen.REGSYNCWORD = 0x39 ∧
    Gen.REGTIMER1COEF = 0x39 ∧
    Gen.REGTIMER2COEF = 0x3a ∧
    Gen.REGIMAGECAL = 0x3b ∧
    Gen.REGTEMP = 0x3c ∧
    Gen.REGIRQFLAGS1 = 0x3e ∧
    Gen.REGIRQFLAGS2 = 0x3f ∧
    Gen.REGDIOMAPPING1 = 0x40 ∧
    Gen.REGDIOMAPPING2 = 0x41 ∧
    Gen.REGVERSION = 0x42 ∧
    Gen.REGPADAC = 0x4d ∧
    Gen.REGBITRATEFRAC = 0x5d := by
  decide

/-- enumerator values of the public header, type by type, in declaration order -/
theorem C09_enumerators_are_datasheet :
    Gen.enum_sx127x_mode_t = [0x00, 0x01, 0x02, 0x03, 0x04, 0x05, 0x06, 0x07] ∧
    Gen.enum_sx127x_modulation_t = [0x80, 0x00, 0x20] ∧
    Gen.enum_sx127x_ook_peak_thresh_step_t = [0x00, 0x01, 0x02, 0x03, 0x04, 0x05, 0x06, 0x07] ∧
    Gen.enum_sx127x_ook_avg_offset_t = [0x00, 0x04, 0x08, 0x0c] ∧
    Gen.enum_sx127x_ook_avg_thresh_t = [0x00, 0x01, 0x02, 0x03] ∧
    Gen.enum_sx127x_ook_peak_thresh_dec_t = [0x00, 0x20, 0x40, 0x60, 0x80, 0xa0, 0xc0, 0xe0] ∧
    Gen.enum_sx127x_rx_trigger_t = [0x00, 0x01, 0x06, 0x07] ∧
    Gen.enum_sx127x_preamble_type_t = [0x20, 0x00] ∧
    Gen.enum_sx127x_rssi_smoothing_t = [0x00, 0x01, 0x02, 0x03, 0x04, 0x05, 0x06, 0x07] ∧
    Gen.enum_sx127x_packet_encoding_t = [0x00, 0x20, 0x40] ∧
    Gen.enum_sx127x_crc_type_t = [0x08, 0x18, 0x19] ∧
    Gen.enum_sx127x_packet_format_t = [0x00, 0x80] ∧
    Gen.enum_sx127x_address_filtering_t = [0x00, 0x02, 0x04] ∧
    Gen.enum_sx127x_gain_t = [0x20, 0x40, 0x60, 0x80, 0xa0, 0xc0, 0x00] ∧
    Gen.enum_sx127x_fsk_data_shaping_t = [0x00, 0x20, 0x40, 0x60] ∧
    Gen.enum_sx127x_ook_data_shaping_t = [0x00, 0x20, 0x40] ∧
    Gen.enum_sx127x_pa_ramp_t = [0x00, 0x01, 0x02, 0x03, 0x04, 0x05, 0x06, 0x07, 0x08, 0x09, 0x0a, 0x0b, 0x0c, 0x0d, 0x0e, 0x0f] ∧
    Gen.enum_sx127x_cr_t = [0x02, 0x04, 0x06, 0x08] ∧
    Gen.enum_sx127x_pa_pin_t = [0x00, 0x80] := by
  decide

end Sx
