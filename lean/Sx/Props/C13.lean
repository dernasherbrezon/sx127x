import Sx.Lemmas.Wp
import Sx.Lemmas.RunP
/-
  C13 — LoRa low-data-rate optimisation tracks the 16 ms symbol rule.
-/
namespace Sx
open Sx.Model DM Mem Chip

/-- datasheet: RegModemConfig1 bits 7-4 → signal bandwidth in Hz -/
def specBandwidthHz (code : Nat) : Nat :=
  match code with
  | 0 => 7800 | 1 => 10400 | 2 => 15600 | 3 => 20800 | 4 => 31250 | 5 => 41700
  | 6 => 62500 | 7 => 125000 | 8 => 250000 | 9 => 500000 | _ => 0

/-- the header's promise: optimisation on iff the symbol lasts longer than 16 ms,
    `2^SF / BW > 16 ms`, in exact arithmetic -/
def ldroWanted (bwHz sf : Nat) : Bool := decide (2 ^ sf * 1000 > 16 * bwHz)

def ldroBit (bwHz sf : Nat) : UInt8 := if ldroWanted bwHz sf then 0x08 else 0x00

/-- RegModemConfig3 as it must be after an automatic update: bit 3 by the rule, all other bits
    as they were -/
def ldroReg (c : Chip) (code : Nat) : UInt8 :=
  (c.lora.rd 0x26 &&& (0xf7 : UInt8)) ||| ldroBit (specBandwidthHz code) (c.lora.rd 0x1e >>> 4).toNat

theorem bandwidthOfCode_spec (n : UInt8) (h : n.toNat ≤ 9) : bandwidthOfCode n = some (specBandwidthHz n.toNat) := by
  have : ∀ k : Fin 10, bandwidthOfCode (UInt8.ofNat k) = some (specBandwidthHz k) := by decide
  have := this ⟨n.toNat, by omega⟩
  rwa [UInt8.ofNat_toNat] at this

theorem wp_reload (h : Handle) (c : Chip) (bus : List BusEv) (cbs : List CbEvent)
    (Q : Except Code Unit → Handle → PState → Prop)
    (hm : h.activeModem = Gen.SX127x_MODULATION_LORA) (hl : c.isLora = true)
    (hc : (c.lora.rd 0x1d >>> 4).toNat ≤ 9) :
    wp reloadLowDatarateOptimization h ⟨c, bus, cbs⟩ Q ↔
      Q (.ok ()) h ⟨{ c with lora := c.lora.wr 0x26 (ldroReg c (c.lora.rd 0x1d >>> 4).toNat) },
        .w 0x26 [ldroReg c (c.lora.rd 0x1d >>> 4).toNat] (.ok ()) :: .r 0x26 1 (.ok (be32 [c.lora.rd 0x26]))
          :: .r 0x1e 1 (.ok (be32 [c.lora.rd 0x1e])) :: .r 0x1d 1 (.ok (be32 [c.lora.rd 0x1d])) :: bus, cbs⟩ := by
  unfold reloadLowDatarateOptimization loraGetBandwidth
  simp only [wp_bind, wp_checkModulation, hm, ne_eq, not_true_eq_false, ↓reduceIte, wp_rread]
  simp only [Gen.REGMODEMCONFIG1, Gen.REGMODEMCONFIG2,
    readN_one_lora _ 0x1d hl (by decide) (by decide), readN_one_lora _ 0x1e hl (by decide) (by decide), be32_single,
    bandwidthOfCode_spec _ hc, wp_pure]
  unfold loraSetLowDatarateOptimization
  simp only [wp_bind, wp_checkModulation, hm, ne_eq, not_true_eq_false, ↓reduceIte]
  rw [wp_appendRegister_lora _ _ _ _ _ _ _ _ hl (by decide) (by decide) (by decide)]
  simp only [Gen.REGMODEMCONFIG3, sel, ldroReg, ldroBit, ldroWanted, Nat.mul_comm 1000]
  exact Iff.rfl

/-- the statement of C13 about RegModemConfig3 (0x26) after an automatic update: bit 3 follows
    the 16 ms rule for the combination *now programmed* in RegModemConfig1/2, every other bit of
    the register is as before -/
structure LdroOk (before after : Chip) : Prop where
  bit : after.lora.rd 0x26 &&& (0x08 : UInt8) =
    ldroBit (specBandwidthHz (after.lora.rd 0x1d >>> 4).toNat) (after.lora.rd 0x1e >>> 4).toNat
  rest : after.lora.rd 0x26 &&& (0xf7 : UInt8) = before.lora.rd 0x26 &&& (0xf7 : UInt8)

theorem ldro_bits (x b : UInt8) (hb : b = 0x08 ∨ b = 0x00) :
    ((x &&& 0xf7) ||| b) &&& 0x08 = b ∧ ((x &&& 0xf7) ||| b) &&& 0xf7 = x &&& 0xf7 := by
  rcases hb with rfl | rfl <;> constructor <;> byte_bits

theorem ldroBit_cases (b s : Nat) : ldroBit b s = 0x08 ∨ ldroBit b s = 0x00 := by
  unfold ldroBit; split <;> simp

/-- the ten bandwidth codes of the datasheet -/
def bwCodes : List Nat := [0x00, 0x10, 0x20, 0x30, 0x40, 0x50, 0x60, 0x70, 0x80, 0x90]

/-- the header's enumerators are the datasheet codes (obligation on the regenerated constants) -/
theorem enum_bw_is_datasheet : Gen.enum_sx127x_bw_t = bwCodes := by decide

theorem bw_nibble (x : UInt8) (bw : Nat) (h : bw ∈ bwCodes) :
    (((x &&& 0x0f) ||| u8 bw) >>> 4).toNat = bw / 16 ∧ bw / 16 ≤ 9 := by
  rw [low_nibble_shift]
  have : ∀ bw ∈ bwCodes, (u8 bw >>> 4).toNat = bw / 16 ∧ bw / 16 ≤ 9 := by decide
  exact this bw h

/-- **C13, bandwidth setter.** For each of the ten bandwidths, any prior content of the three
    modem configuration registers (including reserved spreading-factor codes) and the rest of
    the chip: the call succeeds, programs the bandwidth code into bits 7-4 of RegModemConfig1
    keeping bits 3-0, and leaves RegModemConfig3 with bit 3 set iff 2^SF/BW > 16 ms and all
    other bits unchanged; no other register changes. -/
theorem C13_set_bandwidth (bw : Nat) (hbw : bw ∈ Gen.enum_sx127x_bw_t) (h : Handle)
    (hm : h.activeModem = Gen.SX127x_MODULATION_LORA) (c : Chip) (wf : c.WF) (hl : c.isLora = true) :
    wp (loraSetBandwidth bw) h ⟨c, [], []⟩ (fun r h' s' =>
      r = .ok () ∧ h' = h ∧
      s'.chip.lora.rd 0x1d = (c.lora.rd 0x1d &&& 0x0f) ||| u8 bw ∧
      LdroOk c s'.chip ∧
      (∀ a, a ≠ 0x1d → a ≠ 0x26 → s'.chip.lora.rd a = c.lora.rd a) ∧
      s'.chip.shared = c.shared ∧ s'.chip.fsk = c.fsk ∧ s'.chip.buf = c.buf ∧ s'.chip.fifo = c.fifo) := by
  rw [enum_bw_is_datasheet] at hbw
  have hvalid : ¬(bw % 16 ≠ 0 ∨ bw > Gen.SX127x_BW_500000) := by
    have : ∀ b ∈ bwCodes, ¬(b % 16 ≠ 0 ∨ b > Gen.SX127x_BW_500000) := by decide
    exact this bw hbw
  have hn := bw_nibble (c.lora.rd 0x1d) bw hbw
  unfold loraSetBandwidth
  simp only [wp_bind, wp_checkModulation, hm, ne_eq, not_true_eq_false, ↓reduceIte]
  rw [wp_ite, if_neg hvalid, wp_bind]
  rw [wp_appendRegister_lora _ _ _ _ _ _ _ _ hl (by decide) (by decide) (by decide)]
  simp only [Gen.REGMODEMCONFIG1]
  rw [wp_reload h _ _ _ _ hm (by exact hl) (by
    simp only [rd_wr, wf.hl, Nat.reduceLT, and_self, ↓reduceIte]
    rw [hn.1]; exact hn.2)]
  have hb := ldro_bits (c.lora.rd 0x26) _ (ldroBit_cases (specBandwidthHz (bw / 16)) (c.lora.rd 0x1e >>> 4).toNat)
  refine ⟨rfl, rfl, ?_, ⟨?_, ?_⟩, fun a ha1 ha2 => ?_, rfl, rfl, rfl, rfl⟩
  all_goals simp only [ldroReg, rd_wr, length_wr, wf.hl, Nat.reduceEqDiff, Nat.reduceLT, false_and, ↓reduceIte, and_self, hn.1]
  · exact hb.1
  · exact hb.2
  · rw [if_neg (fun h => ha2 h.1.symm), if_neg (fun h => ha1 h.1.symm)]

/-- the seven spreading factors of the datasheet (RegModemConfig2 bits 7-4 = 6..12) -/
def sfCodes : List Nat := [0x60, 0x70, 0x80, 0x90, 0xa0, 0xb0, 0xc0]

theorem enum_sf_is_datasheet : Gen.enum_sx127x_sf_t = sfCodes := by decide

theorem sf_nibble (x : UInt8) (sf : Nat) (h : sf ∈ sfCodes) : (((x &&& 0x0f) ||| u8 sf) >>> 4).toNat = sf / 16 := by
  rw [low_nibble_shift]
  have : ∀ sf ∈ sfCodes, (u8 sf >>> 4).toNat = sf / 16 := by decide
  exact this sf h

/-- **C13, spreading-factor setter.** For each of the seven spreading factors (SF6 only with
    implicit header, as documented), any prior content of the modem configuration registers
    whose bandwidth code is one of the ten valid ones: the call succeeds, programs the
    detection registers, the spreading factor into bits 7-4 of RegModemConfig2 keeping bits
    3-0, and leaves RegModemConfig3 with bit 3 set iff 2^SF/BW > 16 ms for the new
    combination and all other bits unchanged; no other register changes. -/
theorem C13_set_spreading_factor (sf : Nat) (hsf : sf ∈ Gen.enum_sx127x_sf_t) (h : Handle)
    (hm : h.activeModem = Gen.SX127x_MODULATION_LORA) (h6 : sf = Gen.SX127x_SF_6 → h.implicitHeader = true)
    (c : Chip) (wf : c.WF) (hl : c.isLora = true) (hbwc : (c.lora.rd 0x1d >>> 4).toNat ≤ 9) :
    wp (loraSetModemConfig2 sf) h ⟨c, [], []⟩ (fun r h' s' =>
      r = .ok () ∧ h' = h ∧
      s'.chip.lora.rd 0x1e = (c.lora.rd 0x1e &&& 0x0f) ||| u8 sf ∧
      s'.chip.lora.rd 0x31 = (if sf = 0x60 then 0xc5 else 0xc3) ∧
      s'.chip.lora.rd 0x37 = (if sf = 0x60 then 0x0c else 0x0a) ∧
      LdroOk c s'.chip ∧
      (∀ a, a ≠ 0x1e → a ≠ 0x26 → a ≠ 0x31 → a ≠ 0x37 → s'.chip.lora.rd a = c.lora.rd a) ∧
      s'.chip.shared = c.shared ∧ s'.chip.fsk = c.fsk ∧ s'.chip.buf = c.buf ∧ s'.chip.fifo = c.fifo) := by
  rw [enum_sf_is_datasheet] at hsf
  have hrej : ¬(sf = Gen.SX127x_SF_6 ∧ (!h.implicitHeader) = true) := by
    intro ⟨e, hni⟩
    rw [h6 e] at hni
    cases hni
  have hn := sf_nibble (c.lora.rd 0x1e) sf hsf
  unfold loraSetModemConfig2 loraGetBandwidth
  simp only [wp_bind, wp_checkModulation, hm, ne_eq, not_true_eq_false, ↓reduceIte, wp_getH]
  rw [wp_ite, if_neg hrej]
  simp only [wp_bind, wp_checkModulation, hm, ne_eq, not_true_eq_false, ↓reduceIte, wp_rread,
    Gen.REGMODEMCONFIG1, readN_one_lora _ 0x1d hl (by decide) (by decide), be32_single, bandwidthOfCode_spec _ hbwc, wp_pure, wp_swrite,
    writeN_one, Gen.REGDETECTOPTIMIZE, Gen.REGDETECTIONTHRESHOLD,
    write_lora _ 0x31 _ hl (by decide) (by decide) (by decide)]
  rw [write_lora _ 0x37 _ (by exact hl) (by decide) (by decide) (by decide)]
  rw [wp_appendRegister_lora _ _ _ _ _ _ _ _ (by exact hl) (by decide) (by decide) (by decide)]
  simp only [Gen.REGMODEMCONFIG2]
  rw [wp_reload h _ _ _ _ hm (by exact hl) (by
    simp only [rd_wr, length_wr, wf.hl, Nat.reduceEqDiff, Nat.reduceLT, false_and, ↓reduceIte]
    exact hbwc)]
  have hb := ldro_bits (c.lora.rd 0x26) _ (ldroBit_cases (specBandwidthHz (c.lora.rd 0x1d >>> 4).toNat) (sf / 16))
  refine ⟨rfl, rfl, ?_, ?_, ?_, ⟨?_, ?_⟩, fun a ha1 ha2 ha3 ha4 => ?_, rfl, rfl, rfl, rfl⟩
  all_goals simp only [ldroReg, rd_wr, length_wr, wf.hl, Nat.reduceEqDiff, Nat.reduceLT, false_and, ↓reduceIte,
    and_self, hn, Gen.SX127x_SF_6]
  · exact hb.1
  · exact hb.2
  · rw [if_neg (fun h => ha2 h.1.symm), if_neg (fun h => ha1 h.1.symm), if_neg (fun h => ha4 h.1.symm),
      if_neg (fun h => ha3 h.1.symm)]

/-- **C13, explicit override.** `lora_set_low_datarate_optimization` sets bit 3 to the caller's
    choice and keeps every other bit and register. -/
theorem C13_override (e : Bool) (h : Handle) (hm : h.activeModem = Gen.SX127x_MODULATION_LORA)
    (c : Chip) (wf : c.WF) (hl : c.isLora = true) :
    wp (loraSetLowDatarateOptimization e) h ⟨c, [], []⟩ (fun r h' s' =>
      r = .ok () ∧ h' = h ∧
      s'.chip.lora.rd 0x26 &&& 0x08 = (if e then 0x08 else 0x00) ∧
      s'.chip.lora.rd 0x26 &&& 0xf7 = c.lora.rd 0x26 &&& 0xf7 ∧
      (∀ a, a ≠ 0x26 → s'.chip.lora.rd a = c.lora.rd a) ∧
      s'.chip.shared = c.shared ∧ s'.chip.fsk = c.fsk) := by
  unfold loraSetLowDatarateOptimization
  simp only [wp_bind, wp_checkModulation, hm, ne_eq, not_true_eq_false, ↓reduceIte]
  rw [wp_appendRegister_lora _ _ _ _ _ _ _ _ hl (by decide) (by decide) (by decide)]
  simp only [Gen.REGMODEMCONFIG3, sel]
  have hb := ldro_bits (c.lora.rd 0x26) (if e = true then 0x08 else 0x00) (by cases e <;> simp)
  refine ⟨by trivial, by trivial, ?_, ?_, ?_, by trivial, by trivial⟩
  · rw [rd_wr_same _ 0x26 _ (by rw [wf.hl]; decide)]; exact hb.1
  · rw [rd_wr_same _ 0x26 _ (by rw [wf.hl]; decide)]; exact hb.2
  · intro a ha; rw [rd_wr_ne _ _ _ _ (Ne.symm ha)]

/-- non-vacuity and the headline case: SF11 at 125 kHz is a 16.384 ms symbol and needs the
    optimisation; SF10 at 125 kHz (8.192 ms) does not -/
example : ldroWanted 125000 11 = true ∧ ldroWanted 125000 10 = false ∧ ldroWanted 7800 6 = false
    ∧ ldroWanted 250000 12 = true ∧ ldroWanted 500000 12 = false := by decide

/-- **C13 in the cached build, after any history.**  From any state reachable by an admissible
    history (`Inv`), with LoRa active on handle and chip and an application that does nothing
    inside callbacks: `sx127x_lora_set_bandwidth` with any of
    the ten bandwidths returns OK and leaves the LDRO bit following the 16 ms rule for the
    combination now programmed, all other bits of RegModemConfig3 unchanged. -/
theorem C13_bandwidth_cached (c : SysCfg) (hc : c.cached = true) (hnr : c.NoReact) (s : Sys) (i : Inv s.world)
    (h : Handle) (hh : s.handle = some h) (hm : h.activeModem = Gen.SX127x_MODULATION_LORA)
    (hl : s.world.chip.isLora = true) (bw : Nat) (hbw : bw ∈ Gen.enum_sx127x_bw_t) :
    let st := s.step c (.api (.loraSetBandwidth bw) [] [])
    (∃ cbs bus, st.2 = .ret (.ok .none) cbs bus) ∧ LdroOk s.world.chip st.1.world.chip ∧ st.1.handle = some h
      ∧ Inv st.1.world := by
  intro st
  obtain ⟨h', ps, cbs, bus, hobs, hhd, hchip, ⟨_, hh', _, hld, _⟩, hinv⟩ :=
    step_cached_unit c hc hnr s i (.loraSetBandwidth bw) trivial h hh rfl _ rfl _
      (C13_set_bandwidth bw hbw h hm s.world.chip i.chip hl) fun _ _ _ hq => nomatch hq.1
  exact ⟨⟨cbs, bus, hobs⟩, hchip ▸ hld, hh' ▸ hhd, hinv⟩

/-- the same for `sx127x_lora_set_modem_config_2` -/
theorem C13_spreading_factor_cached (c : SysCfg) (hc : c.cached = true) (hnr : c.NoReact) (s : Sys) (i : Inv s.world)
    (h : Handle) (hh : s.handle = some h) (hm : h.activeModem = Gen.SX127x_MODULATION_LORA)
    (hl : s.world.chip.isLora = true) (sf : Nat) (hsf : sf ∈ Gen.enum_sx127x_sf_t)
    (h6 : sf = Gen.SX127x_SF_6 → h.implicitHeader = true)
    (hbwc : (s.world.chip.lora.rd 0x1d >>> 4).toNat ≤ 9) :
    let st := s.step c (.api (.loraSetModemConfig2 sf) [] [])
    (∃ cbs bus, st.2 = .ret (.ok .none) cbs bus) ∧ LdroOk s.world.chip st.1.world.chip ∧ st.1.handle = some h
      ∧ Inv st.1.world := by
  intro st
  obtain ⟨h', ps, cbs, bus, hobs, hhd, hchip, ⟨_, hh', _, _, _, hld, _⟩, hinv⟩ :=
    step_cached_unit c hc hnr s i (.loraSetModemConfig2 sf) trivial h hh rfl _ rfl _
      (C13_set_spreading_factor sf hsf h hm h6 s.world.chip i.chip hl hbwc) fun _ _ _ hq => nomatch hq.1
  exact ⟨⟨cbs, bus, hobs⟩, hchip ▸ hld, hh' ▸ hhd, hinv⟩

end Sx
