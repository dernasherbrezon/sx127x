import Sx.Lemmas.Sys
import Sx.Lemmas.ContractAll
/-
  C01 — the register cache is coherent with the chip.

  For every initial content of both register pages, every history of API calls (any arguments),
  handler invocations, handle re-creations, environment events (the chip changing its own
  status registers, packets arriving, flags being raised — also between the SPI transfers of a
  running call) and any subset of transfers failing: at every point between two calls, every
  cached entry equals what a read of that register would return from the chip now.
-/
namespace Sx
open Mem Chip Cache

/-- what the radio side may do during a session: admissible events only (`chipRand` and pokes of
    configuration registers describe initial states, which the theorem quantifies over anyway) -/
def Op.Admissible : Op → Prop
  | .env e => e.Admissible = true
  | .api _ sched _ => ∀ e ∈ sched, e.2.Admissible = true

theorem SysCfg.cohOk (c : SysCfg) (hc : c.cached = true) : c.toCfg.CohOk := by
  refine ⟨hc, fun e re hr h => ?_⟩
  obtain ⟨api, _, hrun⟩ := SysCfg.reactionFor_some hr
  rw [hrun]
  exact (coh_api c.cap c.fuel api).all h

theorem Inv.env {w : World} (i : Inv w) {e : Env} (he : e.Admissible = true) :
    Inv { w with chip := e.apply w.chip } :=
  inv_of_stable i rfl rfl (Env.apply_stable i.chip e he)

theorem Sys.start_inv (s : Sys) (i : Inv s.world) (a : Api) {sched : List (Nat × Env)} (faults : List (Nat × Code))
    (hs : ∀ e ∈ sched, e.2.Admissible = true) : Inv (s.start a sched faults) := by
  unfold Sys.start
  split
  · exact ⟨i.chip, fresh_wf, fresh_coh _, hs⟩
  · exact ⟨i.chip, i.cache, i.coh, hs⟩

theorem Sys.finish_inv (s : Sys) {out : Outcome (Except Code Out × Handle)} (i : Inv out.world) :
    Inv (s.finish out).1.world := by
  match out with
  | .ub u w => exact i
  | .done (r, h) w =>
    have i : Inv w := i
    have s1 := foldl_env_stable i.chip w.sched i.sched (fun e => e.1 ≥ w.xfer)
    exact ⟨s1.wf, i.cache, coh_stable i.cache i.coh s1, fun e he => nomatch he⟩

theorem step_inv (c : SysCfg) (hc : c.cached = true) (s : Sys) (op : Op) (hop : op.Admissible)
    (i : Inv s.world) : Inv (s.step c op).1.world := by
  cases op with
  | env e => exact i.env hop
  | api a sched faults =>
    rw [Sys.step_api]
    split
    · exact i
    · exact s.finish_inv (exec_inv c.toCfg (c.cohOk hc) _ ((coh_api c.cap c.fuel a).all _) _ (s.start_inv i a faults hop))

theorem run_inv (c : SysCfg) (hc : c.cached = true) (s : Sys) (ops : List Op) (hops : ∀ op ∈ ops, op.Admissible)
    (i : Inv s.world) : Inv (Sys.run c s ops).1.world :=
  Sys.run_preserves (J := fun s => Inv s.world) c ops (fun op ho s i => step_inv c hc s op (hops op ho) i) s i

/-- **C01.** After any admissible history from any well-formed initial chip, every cached register entry
    equals the value a read of that address returns from the chip in its currently selected
    page. -/
theorem C01_cache_coherent (c : SysCfg) (hc : c.cached = true) (chip0 : Chip) (hw : chip0.WF)
    (ops : List Op) (hops : ∀ op ∈ ops, op.Admissible) :
    let s := (Sys.run c { world := { chip := chip0 }, handle := none } ops).1
    ∀ a, a ≤ 0x70 → s.world.cache.isCached a = true → s.world.cache.vals.rd a = s.world.chip.peek a := by
  intro s a ha hcached
  have i0 : Inv ({ chip := chip0 } : World) := ⟨hw, fresh_wf, fresh_coh _, fun e he => by cases he⟩
  have i := run_inv c hc { world := { chip := chip0 }, handle := none } ops hops i0
  have haN : a < Cache.N := by rw [N_eq]; omega
  rw [i.coh a haN hcached, peek_eq_cell (not_vol_of_cached i.cache haN hcached)]

/-- the hypotheses are satisfiable and the conclusion is not vacuous: a concrete history after
    which a register is cached -/
example : let s := (Sys.run {} { world := { chip := Chip.init }, handle := none }
      [.api .create [] [], .api (.writeRegister 0x39 0x34) [] [], .env (.loraFlags 0x40)]).1
    s.world.cache.isCached 0x39 = true ∧ s.world.cache.vals.rd 0x39 = 0x34 ∧ s.world.chip.peek 0x39 = 0x34 := by
  decide +kernel

end Sx
