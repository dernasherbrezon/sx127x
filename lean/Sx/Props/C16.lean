import Sx.Props.C06
/-
  C16 — frequency hopping cycles through the caller's list, restarting per packet.
-/
namespace Sx
open Sx.Model DM Mem Chip

/-- the list index the handler uses for a hop when the stored counter is `cur` -/
def hopIndex (cur len : Nat) : Nat := if cur ≥ len then 0 else cur

/-- the counter after `j` channel-change events since the last packet boundary -/
def hopCounter (len : Nat) : Nat → Nat
  | 0 => 0
  | j + 1 => hopIndex (hopCounter len j) len + 1

theorem succ_mod (j len : Nat) (hlen : 1 ≤ len) :
    (j + 1) % len = if j % len + 1 = len then 0 else j % len + 1 := by
  have hlt : j % len < len := Nat.mod_lt _ (by omega)
  rw [Nat.add_mod]
  by_cases h1 : len = 1
  · subst h1; simp [Nat.mod_one]
  · have h11 : 1 % len = 1 := Nat.mod_eq_of_lt (by omega)
    rw [h11]
    split
    · rename_i he; rw [he, Nat.mod_self]
    · exact Nat.mod_eq_of_lt (by omega)

/-- **C16, cycling.** The `j`-th channel-change event (counting from 0) after a packet boundary
    uses entry `j mod len` of the list, for every list length ≥ 1 and every number of hops —
    more or fewer than the list length. -/
theorem C16_kth_hop_index (len : Nat) (hlen : 1 ≤ len) (j : Nat) : hopIndex (hopCounter len j) len = j % len := by
  induction j with
  | zero =>
    show (if hopCounter len 0 ≥ len then 0 else hopCounter len 0) = 0 % len
    rw [Nat.zero_mod]
    show (if 0 ≥ len then 0 else 0) = 0
    exact ite_self 0
  | succ j ih =>
    have hlt : j % len < len := Nat.mod_lt _ (by omega)
    simp only [hopCounter, ih]
    rw [succ_mod j len hlen]
    unfold hopIndex
    split <;> split <;> omega

theorem hopCounter_le (len : Nat) (hlen : 1 ≤ len) (j : Nat) : hopCounter len j ≤ len := by
  cases j with
  | zero => simp [hopCounter]
  | succ j =>
    simp only [hopCounter, hopIndex]
    split <;> omega

/-- **C16, one hop.** In LoRa mode with a list of `len` (1..255) entries registered, when the
    chip raises FhssChangeChannel alone (no CadDone, PayloadCrcError, RxDone, TxDone), from any
    stored counter `cur ≤ len`: the handler programs RegFrf with the encoding of entry
    `hopIndex cur len` — an index inside the list — and stores that index plus one; nothing
    else is written except the flag acknowledgement. -/
theorem C16_hop (fuel : Nat) (h : Handle) (c : Chip) (hl : c.isLora = true)
    (hm : h.activeModem = Gen.SX127x_MODULATION_LORA)
    (list : List UInt64) (hfr : h.freqs = some list) (hlen : h.freqLen.toNat = list.length) (hl1 : 1 ≤ list.length)
    (hcur : h.curFreq.toNat ≤ list.length)
    (hflags : c.lora.rd 0x12 &&& 0x04 = 0 ∧ c.lora.rd 0x12 &&& 0x20 = 0 ∧ c.lora.rd 0x12 &&& 0x40 = 0 ∧
              c.lora.rd 0x12 &&& 0x08 = 0 ∧ c.lora.rd 0x12 &&& 0x02 ≠ 0)
    (d : List UInt8)
    (hfrf : frfOf (list.getD (hopIndex h.curFreq.toNat list.length) 0) = some d) :
    hopIndex h.curFreq.toNat list.length < list.length ∧
    wp (handleInterrupt fuel) h ⟨c, [], []⟩ (fun r h' s' =>
      h'.curFreq.toNat = hopIndex h.curFreq.toNat list.length + 1 ∧
      s'.cbs = [] ∧
      s'.bus = [.w 0x06 d (.ok ()), .w 0x12 [c.lora.rd 0x12] (.ok ()), .r 0x12 1 (.ok (be32 [c.lora.rd 0x12]))]) := by
  obtain ⟨hcad, hcrc, hrx, htx, hhop⟩ := hflags
  have hidx : hopIndex h.curFreq.toNat list.length < list.length := by
    unfold hopIndex; split <;> omega
  refine ⟨hidx, ?_⟩
  rw [wp_handleInterrupt_lora _ _ _ _ hm]
  unfold loraHandleInterrupt
  rw [wp_lora_ack _ _ _ _ _ _ hl]
  simp only [wp_bind, wp_getH, irq_bits, hcad, hcrc, hrx, htx, hhop, ne_eq, not_true_eq_false, not_false_eq_true, ↓reduceIte, hfr,
    wp_modH]
  -- the index as the driver computes it on bytes
  have hi : (if h.curFreq ≥ h.freqLen then (0 : UInt8) else h.curFreq).toNat = hopIndex h.curFreq.toNat list.length := by
    unfold hopIndex
    by_cases hge : h.curFreq ≥ h.freqLen
    · have : h.curFreq.toNat ≥ list.length := by rw [← hlen]; exact UInt8.le_iff_toNat_le.mp hge
      rw [if_pos hge, if_pos this]; rfl
    · have : ¬ h.curFreq.toNat ≥ list.length := by
        rw [← hlen]; intro hc; exact hge (UInt8.le_iff_toNat_le.mpr hc)
      rw [if_neg hge, if_neg this]
  rw [hi]
  have hget : list[hopIndex h.curFreq.toNat list.length]? = some (list.getD (hopIndex h.curFreq.toNat list.length) 0) := by
    simp [List.getD, hidx]
  simp only [hget]
  unfold setFrequency
  simp only [hfrf, wp_swrite, wp_modH, Gen.REGFRFMSB]
  refine ⟨?_, rfl, rfl⟩
  have hlt : hopIndex h.curFreq.toNat list.length + 1 < 256 := by
    have := h.freqLen.toNat_lt; omega
  rw [UInt8.toNat_add, hi]
  simp only [UInt8.toNat_one]
  exact Nat.mod_eq_of_lt hlt

/-- **C16, restart and no hop at a packet end (transmit).** A transmit-done event (no CadDone,
    PayloadCrcError or RxDone) — alone or together with a channel-change event — restarts the sequence at the first entry and programs
    no frequency: the only transfers are the flag read and its acknowledgement. -/
theorem C16_restart_tx (fuel : Nat) (h : Handle) (c : Chip) (hl : c.isLora = true)
    (hm : h.activeModem = Gen.SX127x_MODULATION_LORA)
    (hflags : c.lora.rd 0x12 &&& 0x04 = 0 ∧ c.lora.rd 0x12 &&& 0x20 = 0 ∧ c.lora.rd 0x12 &&& 0x40 = 0 ∧
              c.lora.rd 0x12 &&& 0x08 ≠ 0) :
    wp (handleInterrupt fuel) h ⟨c, [], []⟩ (fun r h' s' =>
      h'.curFreq = 0 ∧
      s'.bus = [.w 0x12 [c.lora.rd 0x12] (.ok ()), .r 0x12 1 (.ok (be32 [c.lora.rd 0x12]))]) := by
  obtain ⟨hcad, hcrc, hrx, htx⟩ := hflags
  rw [wp_handleInterrupt_lora _ _ _ _ hm]
  unfold loraHandleInterrupt
  rw [wp_lora_ack _ _ _ _ _ _ hl]
  simp only [wp_bind, wp_getH, irq_bits,
    hcad, hcrc, hrx, htx, ne_eq, not_true_eq_false, not_false_eq_true, ↓reduceIte, wp_modH]
  unfold txCallback
  rw [wp_bind, wp_getH]
  dsimp only
  split
  · simp only [wp_cb]; exact ⟨by trivial, by trivial⟩
  · simp only [wp_pure]; exact ⟨by trivial, by trivial⟩

/-- **C16, restart at a CRC-failed reception.** (`C05_crc_error`: the counter is reset, no
    frequency is programmed, whether or not a channel-change event is flagged as well.) -/
theorem C16_restart_crc (fuel : Nat) (h : Handle) (c : Chip) (hl : c.isLora = true)
    (hm : h.activeModem = Gen.SX127x_MODULATION_LORA)
    (hcad : c.lora.rd 0x12 &&& 0x04 = 0) (hcrc : c.lora.rd 0x12 &&& 0x20 ≠ 0) :
    wp (handleInterrupt fuel) h ⟨c, [], []⟩ (fun r h' s' =>
      h'.curFreq = 0 ∧
      s'.bus = [.w 0x12 [c.lora.rd 0x12] (.ok ()), .r 0x12 1 (.ok (be32 [c.lora.rd 0x12]))]) := by
  apply wp_mono _ _ _ _ _ _ (C05_crc_error fuel h c hl hm hcad hcrc)
  intro r h' s' ⟨_, hh, hb⟩
  exact ⟨by rw [hh], hb⟩

/-- **C16, restart at a completed reception.** (`C05_rx_done`: the handle afterwards has the
    counter reset.) -/
theorem C16_restart_rx (fuel : Nat) (h : Handle) (c : Chip) (wf : c.WF) (hl : c.isLora = true)
    (hm : h.activeModem = Gen.SX127x_MODULATION_LORA) (hcb : h.rxCb = true) (hexp : h.expected = 0)
    (hcap : (c.lora.rd 0x13).toNat ≤ h.packet.length)
    (hcad : c.lora.rd 0x12 &&& 0x04 = 0) (hcrc : c.lora.rd 0x12 &&& 0x20 = 0) (hrx : c.lora.rd 0x12 &&& 0x40 ≠ 0) :
    wp (handleInterrupt fuel) h ⟨c, [], []⟩ (fun r h' s' => h'.curFreq = 0 ∧ s'.chip.shared = c.shared) := by
  apply wp_mono _ _ _ _ _ _ (C05_rx_done fuel h c wf hl hm hcb hexp hcap hcad hcrc hrx)
  intro r h' s' ⟨_, hh, _, _, hs, _⟩
  exact ⟨by rw [hh]; rfl, hs⟩

/-- non-vacuity of the index lemma: three entries, five hops → 0, 1, 2, 0, 1 -/
example : (List.range 5).map (fun j => hopIndex (hopCounter 3 j) 3) = [0, 1, 2, 0, 1] := by decide

end Sx
