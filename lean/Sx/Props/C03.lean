import Sx.Lemmas.RxReady
import Sx.Lemmas.RxCovers
import Sx.Props.C02
import Sx.Lemmas.RxObs
import Sx.Lemmas.RunP
import Sx.Lemmas.IrqBits
/-
  C03 — FSK/OOK reception delivers each packet exactly once, byte-exact.

  The statements are about the driver programs run against the *receive environment* `rxE`
  (Sx/Lemmas/RxFifo.lean): a 64-byte FIFO into which the demodulator may push any number of the
  frame's next bytes before every SPI transfer — so also between the transfers of a running
  handler — as long as the FIFO does not fill up (the property's hypothesis); after the last
  byte it raises PayloadReady (at any later moment, also inside a running handler), with CrcOk
  according to the CRC outcome; the flag bits reflect the FIFO at the moment they are read;
  PayloadReady is cleared when the FIFO becomes empty; the application may do anything inside
  the callback.  `gwp` quantifies over every behaviour this environment admits; `poison` marks
  a FIFO read while empty and any request foreign to the receive path.  Any transfer may fail
  (without effect on the chip), except the recovery write with which the handler drops a packet
  it could not read: the statements therefore also cover C11's "failures do not corrupt later
  packets" for FSK/OOK reception.
-/
namespace Sx
open Sx.Model DM

/-- the outcome of one handler invocation during a reception -/
def RxPost (hdr P : List UInt8) (g g' : RxG) (h' : Handle) : Prop :=
  g'.poison = false ∧
  ( -- still receiving; only possible if the end of the packet had not been signalled before,
    -- or if a transfer failed (the invocation then changed nothing it cannot repeat)
    (g'.ended = false ∧ g'.cbs = g.cbs ∧ RxInv hdr P h' g' ∧ (g.over = false ∨ g'.faulted = true) ∧ g.Same g')
    ∨ -- delivered: exactly the payload, exactly its length, only with a good CRC, state reset
    (g'.ended = true ∧ g'.cbs = g.cbs ++ [.rx P P.length] ∧ (g.crcOn = true → g.crcGood = true)
      ∧ h'.expected = 0 ∧ h'.received = 0)
    ∨ -- dropped because the CRC check failed, or because a transfer failed while the rest of the
    -- complete packet was read: no callback, nothing left behind
    (((g.crcOn = true ∧ g.crcGood = false) ∨ g'.faulted = true) ∧ g'.ended = false ∧ g'.cbs = g.cbs ∧ h'.expected = 0 ∧ h'.received = 0
      ∧ g'.fifo = [] ∧ g'.pending = [] ∧ g'.over = true ∧ g'.ready = false))

/-- One handler invocation during a reception, whatever flags it reads, against every behaviour
    `rxE` admits: it ends as `RxPost` says.  Any transfer may fail, except the recovery write
    (FifoOverrun written to RegIrqFlags2 after a bad CRC or a failed read), which is assumed to
    succeed: `rxR` admits no ghost move for a failing `FlushReq`, so nothing is claimed of a run
    in which that write fails. -/
theorem rx_invocation (fuel : Nat) (hfuel : 64 ≤ fuel) (hdr P : List UInt8) (h : Handle) (g : RxG) (hv : RxInv hdr P h g) :
    DM.gwp rxE (fskOokHandleInterrupt fuel) h g (fun g' _ h' => RxPost hdr P g g' h') := by
  -- a transfer that fails while the reception is still as `RxInv` describes it leaves it so
  have contF : ∀ {hx : Handle} {gx gy : RxG}, RxInv hdr P hx gx → g.Same gx → gx.AdvF gy → RxPost hdr P g gy hx := by
    intro hx gx gy hvx hsx hax
    obtain ⟨hvy, hsy, hfy⟩ := hvx.advF hax
    exact ⟨hvy.gi.live.1, Or.inl ⟨hvy.gi.live.2, (hsx.trans hsy).cbs, hvy, Or.inr hfy, hsx.trans hsy⟩⟩
  -- what is left of a complete packet has been flushed, after arrivals that changed nothing
  have dropped : ∀ {gx gy : RxG} {hx : Handle}, gx.Wf → gx.over = true → g.Same gx → gx.Adv gy →
      ((g.crcOn = true ∧ g.crcGood = false) ∨ gy.flush.faulted = true) → RxPost hdr P g gy.flush (resetState hx) := by
    intro gx gy hx hwx hox hsx hay hwhy
    obtain ⟨hoy, _, hpy⟩ := adv_over hwx hox hay
    obtain ⟨_, hsf, hff, hrf, hpf⟩ := RxG.flush_facts gy (hay.facts hwx).1
    have hsall : g.Same gy.flush := (hsx.trans hay.same).trans hsf
    exact ⟨hsall.poison.trans hv.gi.live.1, Or.inr (Or.inr ⟨hwhy, hsall.ended.trans hv.gi.live.2, hsall.cbs, rfl, rfl, hff,
      hpf.trans hpy, hoy, hrf⟩)⟩
  unfold fskOokHandleInterrupt
  rw [gwp_bind]
  refine gwp_rx_flags hv.gi.live (fun _ _ hf => contF hv (RxG.Same.refl g) hf) fun v g0 ha0 hfl => ?_
  have f0 := Fwd.of_adv hv.gi ha0
  have hv1 : RxInv hdr P h { g0 with irq := v } := (hv.adv ha0).irq v
  have hs01 : g.Same { g0 with irq := v } := f0.same.trans (RxG.Same.irq g0 v)
  obtain ⟨hPR, hCRC, hPS, hOV, hLV, hEM, hFU⟩ := hfl
  dsimp only
  rw [gwp_bind]
  refine gwp_rx_ack hv1.gi.live hOV (fun _ _ hf => contF hv1 hs01 hf) fun g2 ha1 => ?_
  have f2 := Fwd.of_adv hv1.gi ha1
  have hv2 := hv1.adv ha1
  have hsame02 : g.Same g2 := hs01.trans f2.same
  dsimp only
  rw [gwp_bind, gwp_getH]
  dsimp only
  simp only [irq_bits]
  by_cases hpr : v &&& 0x04 ≠ 0
  · -- PayloadReady: the packet is complete, and the stored CrcOk is the outcome of its CRC check
    rw [if_pos hpr]
    have hrdy0 : g0.ready = true := hPR.mp hpr
    have hov2 : g2.over = true := f2.over (f0.gi.wf.readyOver hrdy0)
    have hcrcv : g0.crcFlag = (g.crcOn && g.crcGood) := by rw [f0.gi.wf.crc hrdy0, f0.same.crcOn, f0.same.crcGood]
    by_cases hdrop : h.crcType ≠ Gen.SX127X_CRC_NONE ∧ v &&& 0x02 ≠ 0x02
    · -- CRC failed: flush, reset, no callback
      rw [if_pos hdrop, gwp_bind]
      refine gwp_rx_flush hv2.gi.live (by decide) fun g3 ha2 => ?_
      dsimp only
      rw [gwp_modH]
      have hon : g.crcOn = true := hv.cfg.crc.mp hdrop.1
      have hflag : g0.crcFlag = false := Bool.eq_false_iff.mpr fun hx => hCRC.mpr hx ((crc_bit v).mp hdrop.2)
      rw [hflag, hon, Bool.true_and] at hcrcv
      exact dropped hv2.gi.wf hov2 hsame02 ha2 (Or.inl ⟨hon, hcrcv.symm⟩)
    · rw [if_neg hdrop, gwp_bind, gwp_attempt]
      refine gwp_mono rxE _ _ _ _ _ ?_ (batch_ready fuel hfuel hdr P h g2 hv2.cfg hv2.gi hv2.phase hov2)
      intro g3 r3 h3 hpost3
      rcases hpost3 with ⟨hr3, hd3, hl3, hsm3, _, _⟩ | ⟨ce, hre, hfail⟩
      case inr =>
        -- a transfer failed: what is left of the packet is dropped
        subst hre
        dsimp only
        rw [gwp_bind]
        refine gwp_rx_flush hfail.live (by decide) fun g4 ha3 => ?_
        dsimp only
        rw [gwp_modH]
        exact dropped hfail.wf hfail.over (hsame02.trans hfail.same) ha3 (Or.inr (ha3.faulted.trans hfail.faulted))
      subst hr3
      dsimp only
      unfold rxCallback
      rw [gwp_bind, gwp_bind, gwp_getH]
      dsimp only
      rw [if_pos (by rw [hd3.cb]; exact hv.cfg.cb), gwp_cb]
      intro h4 g4 hc4
      have hg4 : g4 = { g3 with cbs := g3.cbs ++ [CbEvent.rx (h3.packet.take h3.expected.toNat) h3.expected.toNat], ended := true } := hc4
      subst hg4
      dsimp only
      rw [gwp_modH]
      refine ⟨hl3.1, Or.inr (Or.inl ⟨rfl, ?_, ?_, rfl, rfl⟩)⟩
      · show g3.cbs ++ [CbEvent.rx (h3.packet.take h3.expected.toNat) h3.expected.toNat] = _
        rw [hd3.exp, hd3.data, hsm3.cbs, ← hsame02.cbs]
      · intro hon
        have hbit : ¬(v &&& 0x02 ≠ 0x02) := fun hx => hdrop ⟨hv.cfg.crc.mpr hon, hx⟩
        have hflag : g0.crcFlag = true := hCRC.mp fun hz => hbit ((crc_bit v).mpr hz)
        rw [hflag, hon, Bool.true_and] at hcrcv
        exact hcrcv.symm
  · rw [if_neg hpr]
    have hno : g.over = false := Bool.eq_false_iff.mpr fun hx => hpr (hPR.mpr ((hv.adv ha0).kept (f0.over hx)))
    rw [if_neg (fun hn => hn hPS)]
    have hnt : ¬h.opmod = Gen.SX127x_MODE_TX := by
      rcases hv.cfg.mode with e | e <;> rw [e] <;> decide
    rw [if_neg hnt, if_pos hv.cfg.mode]
    have cont : ∀ (g' : RxG) (h' : Handle), RxInv hdr P h' g' → g.Same g' → RxPost hdr P g g' h' :=
      fun g' h' hv' hs' => ⟨hv'.gi.live.1, Or.inl ⟨hv'.gi.live.2, hs'.cbs, hv', Or.inl hno, hs'⟩⟩
    by_cases hlv : v &&& 0x20 ≠ 0 ∧ v &&& 0x80 = 0
    · rw [if_pos hlv, gwp_bind, gwp_attempt]
      have hlen : 31 < g2.fifo.length := by
        have := hLV.mp hlv.1
        have h1 : g0.fifo.length ≤ g2.fifo.length := f2.len
        omega
      refine gwp_mono rxE _ _ _ _ _ ?_ (batch_level fuel hdr P h g2 hv2 hlen)
      intro g3 r3 h3 ⟨hv3, _, _, hs3⟩
      show gwp rxE (pure ()) h3 g3 _
      rw [gwp_pure]
      exact cont g3 h3 hv3 (hsame02.trans hs3)
    · rw [if_neg hlv, gwp_bind]
      refine gwp_rx_status hv2.gi.live (Or.inl rfl) (fun _ _ hf => contF hv2 hsame02 hf) fun v3 g3 ha3 => ?_
      dsimp only
      rw [gwp_bind]
      refine gwp_rx_ack1 (ha3.live hv2.gi.live) v3 (fun _ _ hf => contF hv2 hsame02 (ha3.advF hf)) fun g4 ha4 => ?_
      have ha34 := ha3.trans ha4
      have hv4 := hv2.adv ha34
      have hs04 : g.Same g4 := hsame02.trans ha34.same
      dsimp only
      rw [gwp_bind, gwp_getH]
      dsimp only
      have rssi : DM.gwp rxE fskOokGetRssi h g4 (fun g' _ h' => RxPost hdr P g g' h') := by
        unfold fskOokGetRssi
        rw [gwp_bind]
        refine gwp_rx_status hv4.gi.live (Or.inr rfl) (fun _ _ hf => contF hv4 hs04 hf) fun v5 g5 ha5 => ?_
        dsimp only
        rw [gwp_modH]
        exact cont _ _ ((hv4.adv ha5).handle rfl rfl rfl rfl rfl rfl rfl rfl) (hs04.trans ha5.same)
      split
      · exact rssi
      · split
        · exact rssi
        · rw [gwp_pure]; exact cont g4 h hv4 hs04

/-- the packet has neither been delivered nor dropped -/
def RxG.Open (g : RxG) : Prop := g.ended = false ∧ g.Kept

/-- handler invocations, each against any behaviour the receive environment admits, for as
    long as the packet is open -/
inductive RxTrace (fuel : Nat) (h : Handle) (g : RxG) : Handle → RxG → Prop
  | nil : RxTrace fuel h g h g
  | irq {h1 g1 h2 g2 r} : RxTrace fuel h g h1 g1 → g1.Open →
      (fskOokHandleInterrupt fuel h1).Runs rxE g1 g2 (r, h2) → RxTrace fuel h g h2 g2

/-- what holds at every point of the reception of the frame `hdr ++ P` -/
def RxSessInv (hdr P : List UInt8) (g : RxG) (h' : Handle) (g' : RxG) : Prop :=
  g'.poison = false ∧
  ( (g'.ended = false ∧ g'.cbs = g.cbs ∧ RxInv hdr P h' g' ∧ g.Same g')
    ∨ (g'.ended = true ∧ g'.cbs = g.cbs ++ [.rx P P.length] ∧ (g.crcOn = true → g.crcGood = true)
        ∧ h'.expected = 0 ∧ h'.received = 0)
    ∨ (((g.crcOn = true ∧ g.crcGood = false) ∨ g'.faulted = true) ∧ g'.ended = false ∧ g'.cbs = g.cbs ∧ h'.expected = 0 ∧ h'.received = 0
        ∧ g'.fifo = [] ∧ g'.pending = [] ∧ g'.over = true ∧ g'.ready = false))

/-- **C03.** For every frame (either packet format, with or without address byte, any payload
    that fits the buffer), any CRC setting and outcome, and every sequence of handler
    invocations against every admissible behaviour of the chip — bytes arriving between any two
    transfers, PayloadReady raised at any moment after the last byte, any flag byte consistent
    with the FIFO, spurious invocations:
    * no FIFO read while empty and no foreign request (`poison = false`);
    * no callback before the packet is complete; when the handler sees PayloadReady it invokes
      the receive callback exactly once, with exactly the payload bytes and the exact length —
      and only if the CRC is good when CRC is on;
    * a packet with a bad CRC is dropped without callback, the FIFO flushed, nothing pending;
    * any transfer may fail (the recovery write excepted): the invocation then either changed
      nothing it cannot repeat, or — if the complete packet was being read — drops the packet
      in the same way; it never delivers a packet whose read failed;
    * in both cases `expected_packet_length` and the byte counter are zero afterwards: the next
      packet starts from the same state as the first one. -/
theorem C03_session (fuel : Nat) (hfuel : 64 ≤ fuel) (hdr P : List UInt8) (h : Handle) (g : RxG)
    (hv : RxInv hdr P h g) (h' : Handle) (g' : RxG) (ht : RxTrace fuel h g h' g') : RxSessInv hdr P g h' g' := by
  induction ht with
  | nil => exact ⟨hv.gi.live.1, Or.inl ⟨hv.gi.live.2, rfl, hv, RxG.Same.refl g⟩⟩
  | @irq h1 g1 h2 g2 r _ hopen hrun ih =>
    obtain ⟨_, hcase⟩ := ih
    rcases hcase with ⟨_, hcbs1, hv1, hsm1⟩ | ⟨he, _⟩ | ⟨_, _, _, _, _, _, _, hov, hrd⟩
    · have hs1 : g1.crcOn = g.crcOn ∧ g1.crcGood = g.crcGood := by
        refine ⟨?_, hsm1.crcGood⟩
        unfold RxG.crcOn; rw [hsm1.cfg1]
      obtain ⟨hp2, hcase2⟩ := Prog.gwp_runs hrun (rx_invocation fuel hfuel hdr P h1 g1 hv1)
      refine ⟨hp2, ?_⟩
      rcases hcase2 with ⟨he2, hcbs2, hv2, _, hsm2⟩ | ⟨he2, hcbs2, hcrc, hx, hy⟩ | ⟨hwhy, he2, hcbs2, hx, hy, hf, hp, ho, hr⟩
      · exact Or.inl ⟨he2, hcbs2.trans hcbs1, hv2, hsm1.trans hsm2⟩
      · exact Or.inr (Or.inl ⟨he2, by rw [hcbs2, hcbs1], by rw [← hs1.1, ← hs1.2]; exact hcrc, hx, hy⟩)
      · exact Or.inr (Or.inr ⟨hwhy.imp (fun ⟨hon, hbad⟩ => ⟨by rw [← hs1.1]; exact hon, by rw [← hs1.2]; exact hbad⟩) id,
          he2, hcbs2.trans hcbs1, hx, hy, hf, hp, ho, hr⟩)
    · rw [hopen.1] at he; cases he
    · have := hopen.2 hov; rw [hrd] at this; cases this

theorem rx_api_irq (cap fuel : Nat) (hfuel : 64 ≤ fuel) (hdr P : List UInt8) (h : Handle) (g : RxG) (hv : RxInv hdr P h g)
    (hmod : h.activeModem = Gen.SX127x_MODULATION_FSK ∨ h.activeModem = Gen.SX127x_MODULATION_OOK) :
    (Api.prog cap fuel .irq h).gwp rxE g (fun g' rh => RxPost hdr P g g' rh.2) :=
  gwp_api_irq cap fuel h g hmod (rx_invocation fuel hfuel hdr P h g hv)

/-- **C03 on the chip model.** One handler invocation of the uncached interpreter (no events
    or faults inside it) on a chip that is receiving the frame, related to the ghost state by
    `RxChip` (FIFO content, stored PayloadReady/CrcOk, threshold and configuration registers):
    the outcome is the one `rx_invocation` describes, and unless the callback has run the chip
    is again related to the ghost state.  The arrival of bytes and of the end of the packet
    between invocations are `env_rxByte` and `env_rxEnd`. -/
theorem C03_step_on_chip (hdr P : List UInt8) (c : SysCfg) (hc : c.cached = false) (hfuel : 64 ≤ c.fuel) (s : Sys) (h : Handle) (g : RxG)
    (hh : s.handle = some h) (hv : RxInv hdr P h g)
    (hmod : h.activeModem = Gen.SX127x_MODULATION_FSK ∨ h.activeModem = Gen.SX127x_MODULATION_OOK)
    (hchip : RxChip s.world.chip g) (hclean : g.faulted = false) :
    match s.step c (.api .irq [] []) with
    | (s', .ret _ _ _) => ∃ h' g', s'.handle = some h' ∧ RxPost hdr P g g' h' ∧
        (g'.ended = false → RxChip s'.world.chip g' ∧ g'.faulted = false)
    | (_, .ub _) => True
    | (_, _) => False := by
  have := step_irq_gwp c (abs := rxAbs g.pending g.over) (hc ▸ rx_covers _ _ _) hh [] [] (g := g)
    (Or.inr (Or.inr ⟨hchip, rfl, rfl, hclean, rfl, rfl⟩)) (rx_api_irq c.cap c.fuel hfuel hdr P h g hv hmod)
  generalize s.step c (.api .irq [] []) = st at this
  obtain ⟨s', o⟩ := st
  cases o with
  | ret r cbs bus =>
    obtain ⟨h', w, g', e1, hab, hpost, _, e2⟩ := this
    refine ⟨h', g', e1, hpost, fun hne => ?_⟩
    have hw := rxAbs_live ⟨hpost.1, hne⟩ hab
    exact ⟨e2 ▸ rx_after hw, hw.clean⟩
  | _ => exact this

/-- **C03 on the chip model, cached build.** The same as `C03_step_on_chip` for the build with
    the register cache, from any state whose cache is coherent (C01: every state reachable by an
    admissible history): the cached handler invocation is observably the uncached one (C02), and
    the cache is coherent again afterwards. -/
theorem C03_step_on_chip_cached (hdr P : List UInt8) (c : SysCfg) (hc : c.cached = true) (hval : c.Valid)
    (hfuel : 64 ≤ c.fuel) (s : Sys) (i : Inv s.world) (h : Handle) (g : RxG)
    (hh : s.handle = some h) (hv : RxInv hdr P h g)
    (hmod : h.activeModem = Gen.SX127x_MODULATION_FSK ∨ h.activeModem = Gen.SX127x_MODULATION_OOK)
    (hchip : RxChip s.world.chip g) (hclean : g.faulted = false) :
    match s.step c (.api .irq [] []) with
    | (s', .ret _ _ _) => ∃ h' g', s'.handle = some h' ∧ RxPost hdr P g g' h' ∧
        (g'.ended = false → RxChip s'.world.chip g' ∧ g'.faulted = false) ∧ Inv s'.world
    | (_, .ub _) => True
    | (_, _) => False := by
  have hsim := step_sim c hc hval s s ⟨rfl, rfl, i⟩ (.api .irq [] []) ⟨rfl, rfl⟩ trivial (fun e he => by cases he)
  have hun := C03_step_on_chip hdr P c.uncached rfl hfuel s h g hh hv hmod hchip hclean
  generalize hsc : s.step c (.api .irq [] []) = rc at hsim
  generalize hsu : s.step c.uncached (.api .irq [] []) = ru at hsim hun
  obtain ⟨sc', oc⟩ := rc
  obtain ⟨su', ou⟩ := ru
  cases oc with
  | ub u => trivial
  | skipped => cases ou <;> simp [ObsRel] at hsim <;> exact hun
  | env => cases ou <;> simp [ObsRel] at hsim <;> exact hun
  | ret r cbs bus =>
    cases ou with
    | ret r' cbs' bus' =>
      obtain ⟨h', g', e1, e2, e3⟩ := hun
      have sr := hsim.2 (fun u hu => by cases hu)
      exact ⟨h', g', sr.handle.trans e1, e2, fun hne => by rw [sr.chip]; exact e3 hne, sr.inv⟩
    | _ => exact absurd hsim.1 (by simp [ObsRel])

/-- **C03 on the chip model, as observed.** The same as `C03_step_on_chip`, with the callbacks
    the observation of the step shows: they are exactly what the invocation added to the ghost's
    list — nothing while the packet is still being received or when it is dropped, the one
    receive callback with exactly the payload and its length when it is delivered. -/
theorem C03_step_on_chip_obs (hdr P : List UInt8) (c : SysCfg) (hc : c.cached = false) (hnr : c.NoReact)
    (hfuel : 64 ≤ c.fuel) (s : Sys) (h : Handle) (g : RxG)
    (hh : s.handle = some h) (hv : RxInv hdr P h g)
    (hmod : h.activeModem = Gen.SX127x_MODULATION_FSK ∨ h.activeModem = Gen.SX127x_MODULATION_OOK)
    (hchip : RxChip s.world.chip g) (hclean : g.faulted = false) :
    match s.step c (.api .irq [] []) with
    | (s', .ret _ cbs _) => ∃ h' g', s'.handle = some h' ∧ RxPost hdr P g g' h' ∧
        (g'.ended = false → RxChip s'.world.chip g' ∧ g'.faulted = false ∧ g'.pending = g.pending ∧ g'.over = g.over) ∧
        g'.cbs = g.cbs ++ cbs.map (·.ev)
    | (_, .ub _) => True
    | (_, _) => False := by
  have := step_irq_gwp_obs rxK c (abs := rxAbs g.pending g.over) (onCb_noReact' hnr) (hc ▸ rx_covers _ _ _) hh [] [] (g := g)
    (Or.inr (Or.inr ⟨hchip, rfl, rfl, hclean, rfl, rfl⟩)) (rx_api_irq c.cap c.fuel hfuel hdr P h g hv hmod)
  generalize s.step c (.api .irq [] []) = st at this
  obtain ⟨s', o⟩ := st
  cases o with
  | ret r cbs bus =>
    obtain ⟨h', w, g', e1, hab, hpost, hcbs, e2⟩ := this
    refine ⟨h', g', e1, hpost, fun hne => ?_,
      hcbs (by rw [show rxK.bad g' = (g'.poison = true) from rfl, hpost.1]; exact Bool.false_ne_true)⟩
    have hw := rxAbs_live ⟨hpost.1, hne⟩ hab
    exact ⟨e2 ▸ rx_after hw, hw.clean, hw.pend, hw.ov⟩
  | _ => exact this

/-- what the application sees of one invocation while a packet is received on the chip model:
    no callback, or exactly the receive callback with the payload -/
theorem C03_observed_callbacks (hdr P : List UInt8) (c : SysCfg) (hc : c.cached = false) (hnr : c.NoReact)
    (hfuel : 64 ≤ c.fuel) (s : Sys) (h : Handle) (g : RxG)
    (hh : s.handle = some h) (hv : RxInv hdr P h g)
    (hmod : h.activeModem = Gen.SX127x_MODULATION_FSK ∨ h.activeModem = Gen.SX127x_MODULATION_OOK)
    (hchip : RxChip s.world.chip g) (hclean : g.faulted = false) (s' : Sys) (r : Except Code Out) (cbs : List CbRec)
    (bus : List BusEv) (hstep : s.step c (.api .irq [] []) = (s', .ret r cbs bus)) :
    cbs.map (·.ev) = [] ∨ (cbs.map (·.ev) = [.rx P P.length] ∧ (g.crcOn = true → g.crcGood = true)) := by
  have := C03_step_on_chip_obs hdr P c hc hnr hfuel s h g hh hv hmod hchip hclean
  rw [hstep] at this
  obtain ⟨h', g', _, hpost, _, hcbs⟩ := this
  obtain ⟨_, hcase⟩ := hpost
  rcases hcase with ⟨_, e, _⟩ | ⟨_, e, hcrc, _⟩ | ⟨_, _, e, _⟩
  · exact Or.inl (shown_nil hcbs e)
  · exact Or.inr ⟨shown_eq hcbs e, hcrc⟩
  · exact Or.inl (shown_nil hcbs e)

/-- the start of a packet: the handle in its reset state (as `create`, a delivery or a drop
    leave it), the FIFO empty, the whole frame still on the air -/
theorem rx_start (hdr P : List UInt8) (h : Handle) (g : RxG) (hc : RxCfg hdr P h g)
    (hexp : h.expected = 0) (hrcv : h.received = 0) (hl : g.live)
    (hf : g.fifo = []) (hp : g.pending = hdr ++ P) (ht : g.taken = []) (ho : g.over = false)
    (hr : g.ready = false) (hcf : g.crcFlag = false) : RxInv hdr P h g := by
  refine ⟨hc, ⟨⟨?_, ?_, ?_, ?_, ?_⟩, hl, ?_⟩, Or.inl ⟨hexp, hrcv, ht⟩, ?_⟩
  · intro h1; rw [ho] at h1; cases h1
  · intro h1; rw [hr] at h1; cases h1
  · intro h1; rw [hr] at h1; cases h1
  · intro h1; rw [hcf] at h1; cases h1
  · rw [hf]; exact Nat.zero_le _
  · rw [ht, hf, hp]; rfl
  · intro h1; rw [ho] at h1; cases h1

/-- non-vacuity: a variable-format frame `[2, 7, 9]` (length byte 2, payload `[7, 9]`), CRC on,
    no address filtering, a 16-byte buffer -/
example : RxInv [2] [7, 9]
    { opmod := Gen.SX127x_MODE_RX_CONT, rxCb := true, packet := Mem.zeros 16, format := Gen.SX127X_VARIABLE, crcType := Gen.SX127X_CRC_CCITT }
    { pending := [2, 7, 9], cfg1 := 0x98 } := by
  refine rx_start _ _ _ _ ⟨Or.inl rfl, Or.inl rfl, rfl, by decide, by decide, ?_, ?_⟩ rfl rfl ⟨rfl, rfl⟩ rfl rfl rfl rfl rfl rfl
  · exact Or.inl ⟨rfl, 2, [], rfl, by decide, by decide⟩
  · constructor
    · intro _; decide
    · intro _; decide

/-- non-vacuity: the environment admits the arrival of the first two bytes before a flag read -/
example : rxR { pending := [2, 7, 9], cfg1 := 0x98 } (.rread 0x3f) (.u8 (.ok 0x00))
    { fifo := [2, 7], pending := [9], cfg1 := 0x98, irq := 0 } := by
  unfold rxR
  simp only [Bool.false_eq_true, or_self, ↓reduceIte]
  refine Or.inl ⟨trivial, 2, false, ⟨by decide, by decide⟩, ?_⟩
  unfold rxAnswer
  simp only [↓reduceIte]
  refine ⟨rfl, ?_⟩
  unfold RxFlagsOk
  decide

/-- a reception in progress on the chip model: the handle and the chip agree with the ghost state
    `g` of the receive environment (which holds the frame's bytes still on the air, the FIFO
    content, what the host has taken so far, and the callbacks made) -/
structure Receiving (hdr P : List UInt8) (s : Sys) (g : RxG) : Prop where
  handle : ∃ h, s.handle = some h ∧ RxInv hdr P h g
  chip : RxChip s.world.chip g
  clean : g.faulted = false

/-- **the next byte of the frame arrives** (between two operations of the host, FIFO not full) -/
theorem Receiving.byte {hdr P s g} (c : SysCfg) (hr : Receiving hdr P s g) (b : UInt8) (rest : List UInt8)
    (hp : g.pending = b :: rest) (hroom : g.fifo.length ≤ 62) :
    Receiving hdr P (s.step c (.env (.rxByte b))).1 (g.arrive 1 false) ∧ (s.step c (.env (.rxByte b))).2 = .env := by
  obtain ⟨h, hh, hv⟩ := hr.handle
  obtain ⟨hc', hadm⟩ := env_rxByte hr.chip b rest hp hroom
  have ha : g.Adv (g.arrive 1 false) := ⟨1, false, hadm, rfl⟩
  exact ⟨⟨⟨h, hh, hv.adv ha⟩, hc', ha.faulted.trans hr.clean⟩, rfl⟩

/-- **the demodulator signals the end of the packet** (all bytes have arrived; CrcAutoClearOff as
    the driver configures it) -/
theorem Receiving.fin {hdr P s g} (c : SysCfg) (hr : Receiving hdr P s g)
    (hp : g.pending = []) (ho : g.over = false) (hauto : g.cfg1 &&& 0x08 ≠ 0) :
    Receiving hdr P (s.step c (.env (.rxEnd g.crcGood))).1 (g.arrive 0 true) ∧ (s.step c (.env (.rxEnd g.crcGood))).2 = .env := by
  obtain ⟨h, hh, hv⟩ := hr.handle
  have hc' := env_rxEnd hr.chip hp ho hauto
  have ha : g.Adv (g.arrive 0 true) := ⟨0, true, ⟨Nat.zero_le _, hr.chip.room⟩, rfl⟩
  exact ⟨⟨⟨h, hh, hv.adv ha⟩, hc', ha.faulted.trans hr.clean⟩, rfl⟩

/-- **the host runs the interrupt handler** (uncached build, no application reaction): either the
    reception goes on and the application saw nothing, or this invocation delivered exactly the
    payload — once, with its length, and only with a good CRC —, or the packet was dropped for
    its CRC and the application saw nothing; in the last two cases the per-packet state is reset -/
theorem Receiving.irq {hdr P s g} (c : SysCfg) (hc : c.cached = false) (hnr : c.NoReact) (hfuel : 64 ≤ c.fuel)
    (hr : Receiving hdr P s g) :
    match s.step c (.api .irq [] []) with
    | (s', .ret _ cbs _) =>
        (∃ g', Receiving hdr P s' g' ∧ cbs.map (·.ev) = [] ∧ g'.cbs = g.cbs ∧ g.over = false ∧
          g'.pending = g.pending ∧ g'.over = g.over ∧ g.Same g') ∨
        (cbs.map (·.ev) = [.rx P P.length] ∧ (g.crcOn = true → g.crcGood = true) ∧
          ∃ h', s'.handle = some h' ∧ h'.expected = 0 ∧ h'.received = 0) ∨
        (cbs.map (·.ev) = [] ∧ g.crcOn = true ∧ g.crcGood = false ∧
          ∃ h', s'.handle = some h' ∧ h'.expected = 0 ∧ h'.received = 0)
    | (_, .ub _) => True
    | (_, _) => False := by
  obtain ⟨h, hh, hv⟩ := hr.handle
  have := C03_step_on_chip_obs hdr P c hc hnr hfuel s h g hh hv hv.cfg.modem hr.chip hr.clean
  generalize hst : s.step c (.api .irq [] []) = st at this
  obtain ⟨s', o⟩ := st
  cases o with
  | ub u => trivial
  | skipped => exact this
  | env => exact this
  | ret r cbs bus =>
    obtain ⟨h', g', hh', hpost, hch, hcbs⟩ := this
    obtain ⟨hpois, hcase⟩ := hpost
    rcases hcase with ⟨hend, e, hinv, hov, hsame⟩ | ⟨hend, e, hcrc, he, hrc⟩ | ⟨hwhy, hend, e, he, hrc, _⟩
    · obtain ⟨hchip', hcl', hpe', hov'⟩ := hch hend
      left
      refine ⟨g', ⟨⟨h', hh', hinv⟩, hchip', hcl'⟩, shown_nil hcbs e, e, ?_, hpe', hov', hsame⟩
      · rcases hov with h1 | h1
        · exact h1
        · rw [hcl'] at h1; cases h1
    · right; left
      exact ⟨shown_eq hcbs e, hcrc, h', hh', he, hrc⟩
    · right; right
      have hcl' := (hch hend).2.1
      have hcrcbad : g.crcOn = true ∧ g.crcGood = false := by
        rcases hwhy with h1 | h1
        · exact h1
        · rw [hcl'] at h1; cases h1
      exact ⟨shown_nil hcbs e, hcrcbad.1, hcrcbad.2, h', hh', he, hrc⟩

/-- non-vacuity: a chip in FSK receive mode (CRC on, variable length, threshold 31) with an empty
    FIFO and a fresh handle is `Receiving` the frame `[2, 7, 9]` -/
example : Receiving [2] [7, 9]
    { world := { chip := { fsk := ((Mem.zeros 128).wr 0x30 0x98).wr 0x35 31 } },
      handle := some { opmod := Gen.SX127x_MODE_RX_CONT, rxCb := true, packet := Mem.zeros 16,
                       format := Gen.SX127X_VARIABLE, crcType := Gen.SX127X_CRC_CCITT } }
    { pending := [2, 7, 9], cfg1 := 0x98 } := by
  refine ⟨⟨_, rfl, ?_⟩, ?_, rfl⟩
  · refine rx_start _ _ _ _ ⟨Or.inl rfl, Or.inl rfl, rfl, by decide, by decide, ?_, ?_⟩ rfl rfl ⟨rfl, rfl⟩ rfl rfl rfl rfl rfl rfl
    · exact Or.inl ⟨rfl, 2, [], rfl, by decide, by decide⟩
    · constructor
      · intro _; decide
      · intro _; decide
  · exact ⟨rfl, by decide, by decide, by decide, by decide, by decide, by decide, by decide, by decide, by decide, by decide, by decide⟩

/-- admissible reception histories on the chip model, relative to the bytes of the frame that are
    still on the air (`rem`) and to whether the demodulator has signalled the end of the packet
    (`ov`): the next byte arrives while the FIFO has room (read off the chip), the end is
    signalled once after the last byte with the frame's CRC outcome, the host runs the handler -/
def RxHist (c : SysCfg) (crcGood : Bool) : Sys → List UInt8 → Bool → List Op → Prop
  | _, _, _, [] => True
  | s, rem, ov, op :: ops =>
    match op with
    | .env (.rxByte b) =>
      (match rem with
       | b' :: rest => b' = b ∧ s.world.chip.fifo.length ≤ 62 ∧ RxHist c crcGood (s.step c op).1 rest ov ops
       | [] => False)
    | .env (.rxEnd ok) => rem = [] ∧ ov = false ∧ ok = crcGood ∧ RxHist c crcGood (s.step c op).1 [] true ops
    | .api .irq [] [] => RxHist c crcGood (s.step c op).1 rem ov ops
    | _ => False

/-- what the application sees of a reception history: nothing, until one invocation shows exactly
    the receive callback with the payload and its length -/
def RxSeen (P : List UInt8) : List Obs → Prop
  | [] => True
  | o :: rest => (∃ u, o = .ub u) ∨ (o.cbEvents = [] ∧ RxSeen P rest) ∨ o.cbEvents = [.rx P P.length]

/-- one admissible operation of a reception history, with what is still on the air before and
    after it (`RxHist` is a chain of these) -/
inductive RxOp (crcGood : Bool) (fifoLen : Nat) : List UInt8 → Bool → Op → List UInt8 → Bool → Prop
  | byte (b : UInt8) (rest : List UInt8) (ov : Bool) : fifoLen ≤ 62 → RxOp crcGood fifoLen (b :: rest) ov (.env (.rxByte b)) rest ov
  | fin : RxOp crcGood fifoLen [] false (.env (.rxEnd crcGood)) [] true
  | irq (rem : List UInt8) (ov : Bool) : RxOp crcGood fifoLen rem ov (.api .irq [] []) rem ov

theorem RxOp.plain {cg : Bool} {n : Nat} {rem rem' : List UInt8} {ov ov' : Bool} {op : Op}
    (h : RxOp cg n rem ov op rem' ov') : op.Plain ∧ op.Valid ∧ op.Admissible := by
  cases h with
  | byte => exact ⟨trivial, trivial, rfl⟩
  | fin => exact ⟨trivial, trivial, rfl⟩
  | irq => exact ⟨⟨rfl, rfl⟩, trivial, fun e he => by cases he⟩

theorem RxHist.cons {c : SysCfg} {cg : Bool} {s : Sys} {rem : List UInt8} {ov : Bool} {op : Op} {ops : List Op}
    (h : RxHist c cg s rem ov (op :: ops)) :
    ∃ rem' ov', RxOp cg s.world.chip.fifo.length rem ov op rem' ov' ∧ RxHist c cg (s.step c op).1 rem' ov' ops := by
  unfold RxHist at h
  cases op with
  | env e =>
    cases e with
    | rxByte b =>
      cases rem with
      | nil => exact absurd h id
      | cons b' tl => obtain ⟨rfl, hroom, hrest⟩ := h; exact ⟨tl, ov, .byte b' tl ov hroom, hrest⟩
    | rxEnd ok => obtain ⟨rfl, rfl, rfl, hrest⟩ := h; exact ⟨[], true, .fin, hrest⟩
    | _ => exact absurd h id
  | api a sched faults =>
    cases a with
    | irq =>
      cases sched with
      | cons _ _ => exact absurd h id
      | nil =>
        cases faults with
        | cons _ _ => exact absurd h id
        | nil => exact ⟨rem, ov, .irq rem ov, h⟩
    | _ => exact absurd h id

/-- one admissible operation on a reception in progress (uncached build): undefined behaviour, or
    nothing shown and the reception goes on with the ghost state the operation leaves, or exactly
    the receive callback with the payload -/
theorem Receiving.op {hdr P s g} (c : SysCfg) (hc : c.cached = false) (hnr : c.NoReact) (hfuel : 64 ≤ c.fuel)
    (hr : Receiving hdr P s g) (hcrc : g.crcOn = true → g.crcGood = true) (hauto : g.cfg1 &&& 0x08 ≠ 0)
    {op : Op} {rem' : List UInt8} {ov' : Bool} (hop : RxOp g.crcGood g.fifo.length g.pending g.over op rem' ov') :
    (∃ u, (s.step c op).2 = .ub u) ∨
    ((s.step c op).2.cbEvents = [] ∧ ∃ g', Receiving hdr P (s.step c op).1 g' ∧ g.Same g' ∧ g'.pending = rem' ∧ g'.over = ov') ∨
    (s.step c op).2.cbEvents = [.rx P P.length] := by
  generalize hp : g.pending = p at hop
  generalize ho : g.over = o at hop
  cases hop with
  | byte b _ _ hroom =>
    obtain ⟨hr', hobs⟩ := hr.byte c b rem' hp hroom
    have ha : g.Adv (g.arrive 1 false) := ⟨1, false, ⟨by rw [hp]; exact Nat.le_add_left 1 _, by omega⟩, rfl⟩
    refine Or.inr (Or.inl ⟨by rw [hobs]; rfl, _, hr', ha.same, ?_, ?_⟩)
    · rw [RxG.arrive_pending, hp]; rfl
    · unfold RxG.arrive; simp [hp, ho]
  | fin =>
    obtain ⟨hr', hobs⟩ := hr.fin c hp ho hauto
    have ha : g.Adv (g.arrive 0 true) := ⟨0, true, ⟨Nat.zero_le _, hr.chip.room⟩, rfl⟩
    refine Or.inr (Or.inl ⟨by rw [hobs]; rfl, _, hr', ha.same, ?_, ?_⟩)
    · rw [RxG.arrive_pending, hp]; rfl
    · unfold RxG.arrive; simp [hp, ho]
  | irq _ _ =>
    have := hr.irq c hc hnr hfuel
    generalize s.step c (.api .irq [] []) = st at this ⊢
    obtain ⟨s', o⟩ := st
    cases o with
    | ub u => exact Or.inl ⟨u, rfl⟩
    | skipped => exact absurd this id
    | env => exact absurd this id
    | ret r cbs bus =>
      rcases this with ⟨g', hr', e, _, _, hpe, hov, hs⟩ | ⟨e, _⟩ | ⟨_, hon, hbad, _⟩
      · exact Or.inr (Or.inl ⟨e, g', hr', hs, hpe.trans hp, hov.trans ho⟩)
      · exact Or.inr (Or.inr e)
      · rw [hcrc hon] at hbad; cases hbad

/-- **C03 on the chip model, whole histories.** From a reception in progress (uncached build, no
    application reaction, CrcAutoClearOff as the driver configures it), for a frame whose CRC is
    good or not checked, and for every admissible history of byte arrivals, the end-of-packet
    signal and handler invocations — spurious and repeated ones included —: the application sees
    nothing until one invocation shows exactly one receive callback with exactly the payload and
    its length. -/
theorem C03_history_on_chip (hdr P : List UInt8) (c : SysCfg) (hc : c.cached = false) (hnr : c.NoReact) (hfuel : 64 ≤ c.fuel)
    (ops : List Op) (s : Sys) (g : RxG) (hr : Receiving hdr P s g)
    (hcrc : g.crcOn = true → g.crcGood = true) (hauto : g.cfg1 &&& 0x08 ≠ 0)
    (hadm : RxHist c g.crcGood s g.pending g.over ops) : RxSeen P (Sys.run c s ops).2 := by
  induction ops generalizing s g with
  | nil => trivial
  | cons op rest ih =>
    obtain ⟨rem', ov', hop, hrest⟩ := hadm.cons
    rw [hr.chip.fifo] at hop
    show (∃ u, (s.step c op).2 = .ub u) ∨ ((s.step c op).2.cbEvents = [] ∧ RxSeen P (Sys.run c (s.step c op).1 rest).2) ∨
      (s.step c op).2.cbEvents = [.rx P P.length]
    refine (hr.op c hc hnr hfuel hcrc hauto hop).imp_right (Or.imp_left fun ⟨e, g', hr', hs, hp, ho⟩ => ⟨e, ?_⟩)
    refine ih _ g' hr' (by rw [hs.crcOn, hs.crcGood]; exact hcrc) (by rw [hs.cfg1]; exact hauto) ?_
    rw [hp, ho, hs.crcGood]; exact hrest

theorem SysCfg.NoReact.uncached {c : SysCfg} (h : c.NoReact) : c.uncached.NoReact := h

theorem ObsRel.cbs {a b : Obs} (h : ObsRel a b) : (∃ u, a = .ub u) ∨ (a.cbEvents = b.cbEvents ∧ ∀ u, b ≠ .ub u) := by
  cases a <;> cases b <;> first | exact absurd h id | exact Or.inl ⟨_, rfl⟩ | skip
  · exact Or.inr ⟨rfl, fun u hu => by cases hu⟩
  · exact Or.inr ⟨rfl, fun u hu => by cases hu⟩
  · exact Or.inr ⟨by show List.map _ _ = List.map _ _; rw [h.2.1], fun u hu => by cases hu⟩

/-- **C03 on the chip model, whole histories, cached build.** The same as `C03_history_on_chip` for
    the build with the register cache, from any state whose cache is coherent: every step of the
    cached system is observably the step of its uncached twin (C02), whose reception is followed
    with `Receiving`. -/
theorem C03_history_on_chip_cached (hdr P : List UInt8) (c : SysCfg) (hc : c.cached = true) (hnr : c.NoReact)
    (hfuel : 64 ≤ c.fuel) (ops : List Op) (sc su : Sys) (sr : SR sc su) (g : RxG) (hr : Receiving hdr P su g)
    (hcrc : g.crcOn = true → g.crcGood = true) (hauto : g.cfg1 &&& 0x08 ≠ 0)
    (hadm : RxHist c g.crcGood sc g.pending g.over ops) : RxSeen P (Sys.run c sc ops).2 := by
  induction ops generalizing sc su g with
  | nil => trivial
  | cons op rest ih =>
    obtain ⟨rem', ov', hop, hrest⟩ := hadm.cons
    rw [sr.chip, hr.chip.fifo] at hop
    have hsim := step_sim c hc hnr.valid sc su sr op hop.plain.1 hop.plain.2.1 hop.plain.2.2
    show (∃ u, (sc.step c op).2 = .ub u) ∨ ((sc.step c op).2.cbEvents = [] ∧ RxSeen P (Sys.run c (sc.step c op).1 rest).2) ∨
      (sc.step c op).2.cbEvents = [.rx P P.length]
    rcases hsim.1.cbs with hub | ⟨hcbs, hnub⟩
    · exact Or.inl hub
    have sr' := hsim.2 fun u hu => by
      have := hsim.1; rw [hu] at this
      cases hb : (su.step c.uncached op).2 <;> rw [hb] at this <;> first | exact this | exact hnub _ hb
    rw [hcbs]
    rcases hr.op c.uncached rfl hnr.uncached hfuel hcrc hauto hop with ⟨u, e⟩ | ⟨e, g', hr', hs, hp, ho⟩ | e
    · exact absurd e (hnub u)
    · refine Or.inr (Or.inl ⟨e, ih _ _ sr' g' hr' (by rw [hs.crcOn, hs.crcGood]; exact hcrc) (by rw [hs.cfg1]; exact hauto) ?_⟩)
      rw [hp, ho, hs.crcGood]; exact hrest
    · exact Or.inr (Or.inr e)

/-- non-vacuity: on the chip of the `Receiving` example, the three bytes of the frame `[2, 7, 9]`,
    the end-of-packet signal and a handler invocation form an admissible history -/
example : RxHist { cached := false } true
    { world := { chip := { fsk := ((Mem.zeros 128).wr 0x30 0x98).wr 0x35 31 } },
      handle := some { opmod := Gen.SX127x_MODE_RX_CONT, rxCb := true, packet := Mem.zeros 16,
                       format := Gen.SX127X_VARIABLE, crcType := Gen.SX127X_CRC_CCITT } }
    [2, 7, 9] false
    [.env (.rxByte 2), .env (.rxByte 7), .env (.rxByte 9), .env (.rxEnd true), .api .irq [] []] :=
  ⟨rfl, by decide, rfl, by decide, rfl, by decide, rfl, rfl, rfl, trivial⟩

end Sx
