import Sx.Lemmas.FailFastAll
import Sx.Lemmas.Wp
/-
  C15 — mode changes keep handle, chip mode and interrupt routing consistent.
-/
namespace Sx
open Sx.Model DM Mem Chip

/-- datasheet: RegDioMapping1 after entering a mode (`old` = previous content).
    LoRa RX: DIO0 RxDone, DIO1 RxTimeout, DIO2 FhssChangeChannel, DIO3 CadDone (0x00);
    LoRa TX: DIO0 TxDone, DIO1 FhssChangeChannel (0x50); CAD: DIO0 CadDone, DIO1..3 untouched;
    FSK/OOK RX: DIO0 PayloadReady, DIO1 FifoLevel, DIO2 SyncAddress, DIO3 untouched;
    FSK/OOK TX: DIO0 PacketSent, DIO1 FifoLevel, DIO2 FifoFull, DIO3 FifoEmpty (0x00). -/
def dio1Spec (opmod modulation : Nat) (old : UInt8) : UInt8 :=
  if modulation = 0x80 then
    if opmod = 5 ∨ opmod = 6 then 0x00 else if opmod = 3 then 0x50
    else if opmod = 7 then (old &&& 0x3f) ||| 0x80 else old
  else
    if opmod = 5 ∨ opmod = 6 then (old &&& 0x03) ||| 0x0c else if opmod = 3 then 0x00 else old

/-- RegDioMapping2: FSK/OOK RX claims DIO4 (PreambleDetect) and MapPreambleDetect; DIO5 untouched -/
def dio2Spec (opmod modulation : Nat) (old : UInt8) : UInt8 :=
  if modulation ≠ 0x80 ∧ (opmod = 5 ∨ opmod = 6) then (old &&& 0x3e) ||| 0xc1 else old

/-- unclaimed pins keep their routing -/
theorem dio_unclaimed (old : UInt8) :
    -- CAD keeps DIO1..DIO3
    ((old &&& 0x3f) ||| 0x80) &&& 0x3f = old &&& 0x3f ∧
    -- FSK/OOK RX keeps DIO3 (RegDioMapping1 bits 1-0) and DIO5 (RegDioMapping2 bits 5-4)
    ((old &&& 0x03) ||| 0x0c) &&& 0x03 = old &&& 0x03 ∧
    ((old &&& 0x3e) ||| 0xc1) &&& 0x30 = old &&& 0x30 := by
  refine ⟨?_, ?_, ?_⟩ <;> byte_bits

theorem write_40 (c : Chip) (v : UInt8) : c.write 0x40 v = { c with shared := c.shared.wr 0x40 v } :=
  write_shared c 0x40 v (by decide) (by decide) (by decide)
theorem write_41 (c : Chip) (v : UInt8) : c.write 0x41 v = { c with shared := c.shared.wr 0x41 v } :=
  write_shared c 0x41 v (by decide) (by decide) (by decide)
theorem write_01 (c : Chip) (v : UInt8) : c.write 0x01 v = { c with shared := c.shared.wr 0x01 v } :=
  write_shared c 0x01 v (by decide) (by decide) (by decide)

/-- the chip after a LoRa mode change, by the datasheet table -/
def loraModeSpec (opmod : Nat) (c : Chip) : Chip :=
  { c with shared := (c.shared.wr 0x40 (dio1Spec opmod 0x80 (c.shared.rd 0x40))).wr 0x01 (u8 opmod ||| 0x80) }

/-- **C15, LoRa.** For all eight modes with the LoRa modulation, from any previous mode and
    modulation, any prior register content: the call succeeds, RegOpMode := mode | 0x80,
    RegDioMapping1 as the datasheet table says (DIO4/DIO5, i.e. RegDioMapping2, untouched; for
    CAD also DIO1..DIO3; for the other modes all of it), the handle records the new mode and
    modulation, nothing else changes. -/
theorem C15_lora (opmod : Nat) (ho : opmod < 8) (h : Handle) (c : Chip) :
    wp (setOpmod opmod 0x80) h ⟨c, [], []⟩ (fun r h' s' =>
      r = .ok () ∧ h' = setActiveModem opmod 0x80 h ∧ s'.chip = loraModeSpec opmod c) := by
  have hcases : opmod = 0 ∨ opmod = 1 ∨ opmod = 2 ∨ opmod = 3 ∨ opmod = 4 ∨ opmod = 5 ∨ opmod = 6 ∨ opmod = 7 := by omega
  unfold setOpmod loraModeSpec appendRegister
  rcases hcases with rfl | rfl | rfl | rfl | rfl | rfl | rfl | rfl <;>
    simp only [Gen.SX127x_MODULATION_LORA, Gen.SX127x_MODE_RX_CONT,
      Gen.SX127x_MODE_RX_SINGLE, Gen.SX127x_MODE_TX, Gen.SX127x_MODE_CAD,
      ↓reduceIte, wp_bind, wp_swrite, wp_rread, wp_modH, writeN_one, Gen.REGDIOMAPPING1,
      Gen.REGOPMODE, Nat.reduceEqDiff, or_false, or_self, or_true,
      write_40, write_01, dio1Spec, wr_rd_self, readN_one _ 0x40 (by decide), show (0x40 % 128) = 0x40 from rfl,
      peek_shared _ 0x40 (by decide), be32_single]
  all_goals first
    | exact ⟨by trivial, by trivial, by trivial⟩
    | (refine ⟨by trivial, by trivial, ?_⟩; rfl)

/-- the chip after an FSK/OOK mode change while the FSK/OOK page is selected, by the datasheet:
    RX: DIO0..2 and DIO4 routed, FIFO threshold 31, RegOpMode written;
    TX: DIO mapping for PacketSent / FifoLevel / FifoFull / FifoEmpty, TxStartCondition FifoEmpty +
    threshold 31, sequencer armed (RegSeqConfig1 = 0x90), RegOpMode *not* written;
    other modes: RegOpMode only. -/
def fskModeSpec (opmod modulation : Nat) (c : Chip) : Chip :=
  if opmod = 5 ∨ opmod = 6 then
    { c with shared := (((c.shared.wr 0x40 (dio1Spec opmod modulation (c.shared.rd 0x40))).wr 0x41
                          (dio2Spec opmod modulation (c.shared.rd 0x41))).wr 0x01 (u8 opmod ||| u8 modulation)),
             fsk := c.fsk.wr 0x35 0x1f }
  else if opmod = 3 then
    { c with shared := c.shared.wr 0x40 0x00, fsk := (c.fsk.wr 0x35 0x9f).wr 0x36 0x90 }
  else { c with shared := c.shared.wr 0x01 (u8 opmod ||| u8 modulation) }

theorem write_35 (c : Chip) (v : UInt8) (hl : c.isLora = false) : c.write 0x35 v = { c with fsk := c.fsk.wr 0x35 v } :=
  write_fsk c 0x35 v hl (by decide) (by decide) (by decide) (by decide)
theorem write_36 (c : Chip) (v : UInt8) (hl : c.isLora = false) : c.write 0x36 v = { c with fsk := c.fsk.wr 0x36 v } :=
  write_fsk c 0x36 v hl (by decide) (by decide) (by decide) (by decide)

/-- **C15, FSK and OOK.** For all eight modes with the FSK or OOK modulation, when the chip's
    FSK/OOK register page is the selected one, any prior register content: the call succeeds
    and leaves the chip exactly as the datasheet table prescribes (`fskModeSpec`), and the handle
    records the new mode and modulation. -/
theorem C15_fsk_ook (opmod modulation : Nat) (ho : opmod < 8) (hmod : modulation = 0x00 ∨ modulation = 0x20)
    (h : Handle) (c : Chip) (hl : c.isLora = false) :
    wp (setOpmod opmod modulation) h ⟨c, [], []⟩ (fun r h' s' =>
      r = .ok () ∧ h' = setActiveModem opmod modulation h ∧ s'.chip = fskModeSpec opmod modulation c) := by
  have hcases : opmod = 0 ∨ opmod = 1 ∨ opmod = 2 ∨ opmod = 3 ∨ opmod = 4 ∨ opmod = 5 ∨ opmod = 6 ∨ opmod = 7 := by omega
  have hl40 : ∀ v, ({ c with shared := c.shared.wr 0x40 v } : Chip).isLora = false := fun v =>
    (isLora_of_shared (rd_wr_ne _ 0x40 1 _ (by decide))).trans hl
  have hl41 : ∀ v w, ({ c with shared := (c.shared.wr 0x40 v).wr 0x41 w } : Chip).isLora = false := fun v w =>
    (isLora_of_shared ((rd_wr_ne _ 0x41 1 _ (by decide)).trans (rd_wr_ne _ 0x40 1 _ (by decide)))).trans hl
  have hl40f : ∀ v m, ({ c with shared := c.shared.wr 0x40 v, fsk := m } : Chip).isLora = false := fun v m => hl40 v
  unfold setOpmod fskModeSpec appendRegister
  rcases hmod with rfl | rfl <;>
  rcases hcases with rfl | rfl | rfl | rfl | rfl | rfl | rfl | rfl <;>
    simp only [Gen.SX127x_MODULATION_LORA, Gen.SX127x_MODULATION_FSK,
      Gen.SX127x_MODULATION_OOK, Gen.SX127x_MODE_RX_CONT,
      Gen.SX127x_MODE_RX_SINGLE, Gen.SX127x_MODE_TX,
      ↓reduceIte, wp_bind, wp_swrite, wp_rread, wp_modH, writeN_one, Gen.REGDIOMAPPING1,
      Gen.REGDIOMAPPING2, Gen.REGFIFOTHRESH, Gen.REGSEQCONFIG1,
      Gen.REGOPMODE, Nat.reduceEqDiff, or_false, or_self, or_true,
      write_40, write_41, write_01, dio1Spec, dio2Spec, readN_one _ 0x40 (by decide), readN_one _ 0x41 (by decide),
      show (0x40 % 128) = 0x40 from rfl, show (0x41 % 128) = 0x41 from rfl,
      peek_shared _ 0x40 (by decide), peek_shared _ 0x41 (by decide), be32_single,
      rd_wr_ne _ 0x40 0x41 _ (by decide), Nat.reduceEqDiff, ne_eq, not_false_eq_true, and_self, true_and]
  all_goals first
    | exact ⟨by trivial, by trivial, by trivial⟩
    | (refine ⟨by trivial, by trivial, ?_⟩; rfl)
    | (simp only [write_35, write_36, hl40, hl41, hl40f]
       first
         | exact ⟨by trivial, by trivial, by trivial⟩
         | (refine ⟨by trivial, by trivial, ?_⟩; rfl)
         | rfl)

/-- **C15, unknown modulation.** A modulation value other than the three enumerators is rejected
    before any request is issued: the program is a plain return, for every handle. -/
theorem C15_unknown_modulation (opmod modulation : Nat) (h : Handle)
    (hm : modulation ≠ 0x80 ∧ modulation ≠ 0x00 ∧ modulation ≠ 0x20) :
    setOpmod opmod modulation h = .ret (.error Gen.SX127X_ERR_INVALID_ARG, h) := by
  unfold setOpmod
  simp only [Gen.SX127x_MODULATION_LORA, Gen.SX127x_MODULATION_FSK,
    Gen.SX127x_MODULATION_OOK, hm.1, hm.2.1, hm.2.2, ↓reduceIte, or_self]
  rfl

/-- the regenerated enumerators are the datasheet's mode and modulation codes -/
theorem enum_modes_are_datasheet :
    Gen.enum_sx127x_mode_t = [0, 1, 2, 3, 4, 5, 6, 7] ∧ Gen.enum_sx127x_modulation_t = [0x80, 0x00, 0x20] := by decide

/-- non-vacuity: entering FSK RX from a chip in FSK standby routes DIO and selects the mode -/
example : (fskModeSpec 5 0 Chip.init).shared.rd 0x01 = 0x05 ∧ (fskModeSpec 5 0 Chip.init).shared.rd 0x40 = 0x0c
    ∧ (fskModeSpec 5 0 Chip.init).fsk.rd 0x35 = 0x1f ∧ Chip.init.isLora = false := by decide +kernel

/-- the call switches between the LoRa modem and the FSK/OOK modem -/
def CrossesModems (h : Handle) (modulation : Nat) : Prop :=
  (h.activeModem = Gen.SX127x_MODULATION_LORA) ≠ (modulation = Gen.SX127x_MODULATION_LORA)
/-- the call starts the FSK/OOK receiver (from a mode other than the requested one) -/
def StartsFskRx (h : Handle) (opmod modulation : Nat) : Prop :=
  modulation ≠ Gen.SX127x_MODULATION_LORA ∧ (opmod = Gen.SX127x_MODE_RX_CONT ∨ opmod = Gen.SX127x_MODE_RX_SINGLE) ∧ h.opmod ≠ opmod

theorem resetState_idem (h : Handle) : resetState (resetState h) = resetState h := rfl
theorem resetState_opmod (h : Handle) : (resetState h).opmod = h.opmod := rfl

theorem setActiveModem_reset (opmod modulation : Nat) (h : Handle)
    (hx : CrossesModems h modulation ∨ StartsFskRx h opmod modulation) :
    setActiveModem opmod modulation h = { resetState h with activeModem := modulation, opmod := opmod } := by
  unfold setActiveModem CrossesModems StartsFskRx at *
  dsimp only
  split <;> split
  · rfl
  · rfl
  · rfl
  · rename_i h1 h2; exact absurd hx (fun e => e.elim h1 h2)

theorem setActiveModem_keep (opmod modulation : Nat) (h : Handle)
    (hx : ¬ (CrossesModems h modulation ∨ StartsFskRx h opmod modulation)) :
    setActiveModem opmod modulation h = { h with activeModem := modulation, opmod := opmod } := by
  unfold setActiveModem CrossesModems StartsFskRx at *
  dsimp only
  split <;> split
  · rename_i h1 _; exact absurd (Or.inl h1) hx
  · rename_i h1 _; exact absurd (Or.inl h1) hx
  · rename_i _ h2; exact absurd (Or.inr h2) hx
  · rfl

/-- **C15, what the handle records.** The new mode and modulation; when the call switches between
    the LoRa modem and the FSK/OOK modem, or starts the FSK/OOK receiver, the packet in progress
    (expected length, bytes sent or received so far, FSK RSSI sample) is forgotten — it belongs
    to the modem that is left, or to a transmission or reception that was abandoned; otherwise
    nothing else changes.  Every other field is kept in either case. -/
theorem C15_handle_after (opmod modulation : Nat) (h : Handle) :
    let h' := setActiveModem opmod modulation h
    h'.activeModem = modulation ∧ h'.opmod = opmod ∧
    ((CrossesModems h modulation ∨ StartsFskRx h opmod modulation) →
        h' = { resetState h with activeModem := modulation, opmod := opmod } ∧ h'.expected = 0 ∧ h'.received = 0) ∧
    (¬ (CrossesModems h modulation ∨ StartsFskRx h opmod modulation) →
        h' = { h with activeModem := modulation, opmod := opmod }) ∧
    h'.implicitHeader = h.implicitHeader ∧ h'.rxCb = h.rxCb ∧ h'.txCb = h.txCb ∧ h'.cadCb = h.cadCb ∧
    h'.packet = h.packet ∧ h'.format = h.format ∧ h'.crcType = h.crcType ∧ h'.freqs = h.freqs ∧
    h'.freqLen = h.freqLen ∧ h'.curFreq = h.curFreq := by
  intro h'
  by_cases hx : CrossesModems h modulation ∨ StartsFskRx h opmod modulation
  · have e : h' = { resetState h with activeModem := modulation, opmod := opmod } := setActiveModem_reset opmod modulation h hx
    rw [e]
    exact ⟨rfl, rfl, fun _ => ⟨rfl, rfl, rfl⟩, fun n => absurd hx n, rfl, rfl, rfl, rfl, rfl, rfl, rfl, rfl, rfl, rfl⟩
  · have e : h' = { h with activeModem := modulation, opmod := opmod } := setActiveModem_keep opmod modulation h hx
    rw [e]
    exact ⟨rfl, rfl, fun y => absurd y hx, fun _ => rfl, rfl, rfl, rfl, rfl, rfl, rfl, rfl, rfl, rfl, rfl⟩

/-- **C15, the handle after a successful mode change**, for every mode, modulation, handle and
    every answer of chip and bus (no assumption on the chip at all): whenever `sx127x_set_opmod`
    reports success the handle is `setActiveModem opmod modulation` of the old one. -/
theorem C15_handle_on_success (opmod modulation : Nat) (h : Handle) :
    (setOpmod opmod modulation h).fwp false
      (fun _ rh => rh.1 = .ok () → rh.2 = setActiveModem opmod modulation h) := by
  unfold setOpmod appendRegister
  simp only [DM.fwp_bind', DM.fwp_rread, DM.fwp_swrite, DM.fwp_modH, DM.fwp_ite, DM.fwp_fail]
  repeat' split
  all_goals simp

/-- **Switching modems, and starting the FSK/OOK receiver, start from a clean packet state** (the
    hypothesis `expected = 0` of the C05 theorems and `expected = 0 ∧ received = 0` of C03's
    `rx_start`): a successful mode change from FSK/OOK into LoRa or from LoRa into FSK/OOK, and a
    successful start of the FSK/OOK receiver from any other mode, leave no expected length and no
    byte count behind — whatever an abandoned transmission, a half-received packet or a configured
    implicit-header length had left in the handle, and whatever the chip answers. -/
theorem C15_modem_switch_forgets_packet (opmod modulation : Nat) (h : Handle)
    (hx : CrossesModems h modulation ∨ StartsFskRx h opmod modulation) :
    (setOpmod opmod modulation h).fwp false
      (fun _ rh => rh.1 = .ok () → rh.2.expected = 0 ∧ rh.2.received = 0 ∧ rh.2.activeModem = modulation) := by
  refine Prog.fwp_mono _ _ _ _ ?_ (C15_handle_on_success opmod modulation h)
  intro f rh hq hok
  rw [hq hok]
  have := C15_handle_after opmod modulation h
  exact ⟨(this.2.2.1 hx).2.1, (this.2.2.1 hx).2.2, this.1⟩

/-- non-vacuity: a handle in FSK with a 101-byte frame half sent enters LoRa sleep; a handle in FSK
    standby with a half-received packet starts the receiver; a mode change that does neither keeps
    the frame that was queued for transmission -/
example : (setActiveModem 0 0x80 { activeModem := 0, expected := 101, received := 64 }).expected = 0 := by decide
example : (setActiveModem 5 0 { activeModem := 0, opmod := 1, expected := 120, received := 30 }).received = 0 := by decide
example : (setActiveModem 3 0 { activeModem := 0, opmod := 1, expected := 101, received := 64 }).expected = 101 := by decide

/-- **A frame queued under FSK may be sent as OOK and vice versa** (both run the same packet engine):
    entering transmit mode - or any mode other than receive - in FSK or OOK from FSK or OOK keeps the
    frame progress (expected length, bytes handed over so far) exactly as it was. -/
theorem C15_fsk_ook_change_keeps_frame (opmod modulation : Nat) (h : Handle)
    (hm : modulation = Gen.SX127x_MODULATION_FSK ∨ modulation = Gen.SX127x_MODULATION_OOK)
    (ha : h.activeModem = Gen.SX127x_MODULATION_FSK ∨ h.activeModem = Gen.SX127x_MODULATION_OOK)
    (hop : opmod ≠ Gen.SX127x_MODE_RX_CONT ∧ opmod ≠ Gen.SX127x_MODE_RX_SINGLE) :
    (setActiveModem opmod modulation h).expected = h.expected ∧
    (setActiveModem opmod modulation h).received = h.received ∧
    (setActiveModem opmod modulation h).packet = h.packet := by
  have hnot : ¬ (CrossesModems h modulation ∨ StartsFskRx h opmod modulation) := by
    intro hx
    rcases hx with hc | hs
    · unfold CrossesModems at hc
      apply hc
      have h1 : ¬ (h.activeModem = Gen.SX127x_MODULATION_LORA) := by
        rcases ha with e | e <;> rw [e] <;> decide
      have h2 : ¬ (modulation = Gen.SX127x_MODULATION_LORA) := by
        rcases hm with e | e <;> rw [e] <;> decide
      exact propext ⟨fun a => absurd a h1, fun a => absurd a h2⟩
    · exact hs.2.1.elim hop.1 hop.2
  rw [setActiveModem_keep opmod modulation h hnot]
  exact ⟨rfl, rfl, rfl⟩

section failure
open DM
/-- **C15, failure clause.** For every mode and modulation value, every handle and every answer
    of chip and bus: if any transfer of `sx127x_set_opmod` fails, the handle is exactly what it
    was (so the handle's modulation and mode change only if the call succeeds). -/
theorem C15_handle_unchanged_on_failure (opmod modulation : Nat) : TX (setOpmod opmod modulation) := by
  unfold setOpmod
  dsimp only
  have fin : TX (do swrite Gen.REGOPMODE [u8 opmod ||| u8 modulation]
                    modH (setActiveModem opmod modulation)) :=
    TX_bind_keep (KeepH_swrite _ _) (FS_swrite _ _) (fun _ => ⟨fun _ e => by cases e⟩)
  split
  · split
    · apply TX_bind_keep (KeepH_swrite _ _) (FS_swrite _ _); intro _
      exact fin
    · split
      · apply TX_bind_keep (KeepH_swrite _ _) (FS_swrite _ _); intro _
        exact fin
      · split
        · apply TX_bind_keep (keep_append _ _ _) (fs_append _ _ _); intro _
          exact fin
        · exact fin
  · split
    · split
      · apply TX_bind_keep (keep_append _ _ _) (fs_append _ _ _); intro _
        apply TX_bind_keep (keep_append _ _ _) (fs_append _ _ _); intro _
        apply TX_bind_keep (KeepH_swrite _ _) (FS_swrite _ _); intro _
        exact fin
      · split
        · apply TX_bind_keep (KeepH_swrite _ _) (FS_swrite _ _); intro _
          apply TX_bind_keep (KeepH_swrite _ _) (FS_swrite _ _); intro _
          apply TX_bind_keep (KeepH_swrite _ _) (FS_swrite _ _); intro _
          exact TX_modH _
        · exact fin
    · exact TX_of_keepH (KeepH_fail _)
end failure

end Sx
