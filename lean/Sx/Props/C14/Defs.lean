import Sx.Model.Beacon
/-
  C14 — what "the beacon period is programmed to the requested interval" means, as a decidable
  predicate per interval, and the timer selection cut at the two points where its proof changes
  method: the choice of timer 1 (`beaconChoice`) and what timer 2 makes of the remainder
  (`beaconFine`).
-/
namespace Sx
open Sx.Model

/-- nominal duration of one timer step (ms) for a resolution code of RegTimerResol (datasheet:
    01 = 64 us, 10 = 4.1 ms, 11 = 262 ms) -/
def timerStep (code : UInt8) : Rat := if code = 1 then 64/1000 else if code = 2 then 41/10 else 262

/-- the period the sequencer realises with the programmed coefficients, and the finer of the two
    resolutions in use -/
def beaconPeriod (c1 c2 resol : UInt8) : Rat × Rat :=
  let r1 := timerStep ((resol >>> 2) &&& 3)
  let r2 := timerStep (resol &&& 3)
  (r1 * c1.toNat + r2 * c2.toNat, min r1 r2)

/-- both timers enabled, no conversion out of range, the period does not exceed the request and
    falls short of it by at most one step of the finer timer, which is at most 4.1 ms unless only
    the coarsest resolution fits (above 67.8 s) -/
def beaconOk (iv : Nat) : Bool :=
  match beaconTimers iv with
  | none => false
  | some (c1, c2, resol) =>
    let (total, fine) := beaconPeriod c1 c2 resol
    let dev := (iv : Rat) - total
    decide ((resol >>> 2) &&& 3 ≠ 0) && decide (resol &&& 3 ≠ 0) && decide (resol &&& 0xf0 = 0) &&
      decide (0 ≤ dev) && decide (dev ≤ fine) && (decide (fine ≤ 41/10) || decide (iv > 67855))

/-- resolution of timer 1, its coefficient as a float, and the resolution of timer 2 where that
    does not depend on what timer 1 leaves (the `choice` of `beaconTimers`) -/
def beaconChoice (iv : F) : F × F × Option F :=
  let p1 := f32 (64/1000)
  let p2 := f32 (41/10)
  let p3 := f32 262
  let c255 := F.ofNat b32 255
  let two := F.ofNat b32 2
  let m (a b : F) := F.mul b32 a b
  let d (a b : F) := F.div b32 a b
  let a (x y : F) := F.add b32 x y
  if F.le iv (m (m c255 p1) two) then (p1, d (d iv p1) two, some p1)
  else if F.le iv (a (m c255 p2) (m c255 p1)) then (p2, d iv p2, some p1)
  else if F.le iv (m (m c255 p2) two) then (p2, d (d iv p2) two, some p2)
  else if F.le iv (a (m c255 p3) (m c255 p2)) then (p3, d iv p3, none)
  else (p3, d (d iv p3) two, some p3)

/-- timer 2 and the register value once timer 1 counts `c1` steps of `r1` and leaves `rem`
    (the rest of `beaconTimers`) -/
def beaconFine (rem r1 : F) (r2o : Option F) (c1 : Nat) : Option (UInt8 × UInt8 × UInt8) :=
  let p1 := f32 (64/1000)
  let p2 := f32 (41/10)
  let r2 := match r2o with
    | some r => r
    | none => if F.le rem (F.mul b32 (F.ofNat b32 255) p1) then p1 else p2
  match timerCoefficient (F.div b32 rem r2) with
  | none => none
  | some c2 =>
    let hi : Nat := if F.eq r1 p1 then 0x04 else if F.eq r1 p2 then 0x08 else 0x0c
    let lo : Nat := if F.eq r2 p1 then 0x01 else if F.eq r2 p2 then 0x02 else 0x03
    some (UInt8.ofNat c1, UInt8.ofNat c2, UInt8.ofNat (hi + lo))

theorem beaconTimers_eq (n : Nat) :
    beaconTimers n = match timerCoefficient (beaconChoice (F.ofNat b32 n)).2.1 with
      | none => none
      | some c1 =>
        beaconFine (F.sub b32 (F.ofNat b32 n) (F.mul b32 (beaconChoice (F.ofNat b32 n)).1 (F.ofNat b32 c1)))
          (beaconChoice (F.ofNat b32 n)).1 (beaconChoice (F.ofNat b32 n)).2.2 c1 := by
  unfold beaconTimers beaconChoice beaconFine
  rfl

/-- `beaconOk` for an interval that leaves `R` ms behind a 262 ms timer 1 whose coefficient did not
    saturate the choice of timer 2: timer 2 picks 64 us or 4.1 ms and counts `R` down to less than
    one of its steps -/
def fineOk (R : Nat) : Bool :=
  match beaconFine (.fin R) (.fin 262) none 0 with
  | none => false
  | some (_, c2, resol) =>
    let r2 := timerStep (resol &&& 3)
    let dev := (R : Rat) - r2 * c2.toNat
    decide ((resol >>> 2) &&& 3 = 3) && decide (resol &&& 3 ≠ 0) && decide (resol &&& 0xf0 = 0) &&
      decide (0 ≤ dev) && decide (dev ≤ r2) && decide (r2 ≤ 41/10)

def allTrue (p : Nat → Bool) (lo n : Nat) : Bool := (List.range n).all (fun i => p (lo + i))

theorem allTrue_spec {p : Nat → Bool} {lo n : Nat} (h : allTrue p lo n = true) (i : Nat) (h1 : lo ≤ i) (h2 : i < lo + n) :
    p i = true := by
  have := List.all_eq_true.mp h (i - lo) (by simp; omega)
  rwa [show lo + (i - lo) = i by omega] at this

end Sx
