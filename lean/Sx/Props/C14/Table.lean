import Sx.Lemmas.Beacon
/- Kernel evaluation is left for the two places where the selection divides by the
   float 0.064, whose quotients have no slack against rounding: the 32 intervals for which timer 1
   runs at 64 us, and the 17 remainders below 17 ms that timer 2 counts at 64 us behind a 262 ms
   timer 1.  Everything else is arithmetic (Sx/Lemmas/Beacon.lean). -/
namespace Sx

theorem beacon_small : allTrue beaconOk 1 32 = true := by decide +kernel

theorem beacon_fine : allTrue fineOk 0 17 = true := by decide +kernel

theorem beacon_table (iv : Nat) (h1 : 1 ≤ iv) (h2 : iv ≤ 133620) : beaconOk iv = true := by
  by_cases h_0 : iv ≤ 32
  · exact allTrue_spec beacon_small iv h1 (by omega)
  by_cases h_1 : iv ≤ 1061
  · exact beaconOk_b2 iv (by omega) h_1
  by_cases h_2 : iv ≤ 2091
  · exact beaconOk_b3 iv (by omega) h_2
  by_cases h_3 : iv ≤ 67855
  · refine beaconOk_mid iv (by omega) h_3 ?_
    by_cases h_4 : iv - 262 * min 255 (iv / 262) < 17
    · exact allTrue_spec beacon_fine _ (by omega) (by omega)
    · exact fineOk_p2 _ (by omega) (by omega)
  exact beaconOk_coarse iv (by omega) h2

end Sx
