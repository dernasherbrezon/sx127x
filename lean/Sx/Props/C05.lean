import Sx.Lemmas.Wp
import Sx.Lemmas.RunP
import Sx.Lemmas.Fifo
import Sx.Lemmas.IrqBits
/-
  C05 — LoRa reception delivers the chip's packet bytes and length exactly, once.
-/
namespace Sx
open Sx.Model DM Mem Chip

/-- the bytes the chip stored for a packet of `n` bytes starting at buffer address `start`,
    wrapping around the 256-byte buffer -/
def loraPacket (c : Chip) (start : UInt8) (n : Nat) : List UInt8 :=
  (List.range n).map (fun i => c.buf.rd ((start.toNat + i) % 256))

def afterLoraRx (h : Handle) (data : List UInt8) : Handle :=
  { h with packet := h.packet.wrs 0 data, expected := 0, curFreq := 0 }

theorem wp_handleInterrupt_lora (fuel : Nat) (h : Handle) (s : PState) (Q)
    (hm : h.activeModem = Gen.SX127x_MODULATION_LORA) :
    wp (handleInterrupt fuel) h s Q ↔ wp loraHandleInterrupt h s Q := by
  unfold handleInterrupt
  rw [wp_bind, wp_getH]
  simp only [hm, ↓reduceIte]

/-- the handler's first two transfers: read the flags, write them back to acknowledge them -/
theorem wp_lora_ack (k : UInt8 → DM Unit) (h : Handle) (c : Chip) (bus : List BusEv) (cbs : List CbEvent) (Q)
    (hl : c.isLora = true) :
    wp (do let v ← rread Gen.REGIRQFLAGS; swrite Gen.REGIRQFLAGS [v]; k v) h ⟨c, bus, cbs⟩ Q ↔
      wp (k (c.lora.rd 0x12)) h ⟨{ c with lora := c.lora.wr 0x12 (c.lora.rd 0x12 &&& ~~~ c.lora.rd 0x12) },
        .w 0x12 [c.lora.rd 0x12] (.ok ()) :: .r 0x12 1 (.ok (be32 [c.lora.rd 0x12])) :: bus, cbs⟩ Q := by
  simp only [wp_bind, wp_rread, wp_swrite, Gen.REGIRQFLAGS, readN_one_lora _ 0x12 hl (by decide) (by decide), be32_single, writeN_one,
    write_lora_flags _ _ hl]

/-- the length `sx127x_lora_rx_read_payload` reads: RegRxNbBytes with explicit header, the low byte
    of the configured length with implicit header -/
def loraRxLen (h : Handle) (c : Chip) : UInt8 := if h.expected = 0 then c.lora.rd 0x13 else h.expected.toUInt8

theorem wp_loraRxReadPayload (h : Handle) (c : Chip) (bus : List BusEv) (cbs : List CbEvent) (Q)
    (wf : c.WF) (hl : c.isLora = true) (hm : h.activeModem = Gen.SX127x_MODULATION_LORA) :
    wp loraRxReadPayload h ⟨c, bus, cbs⟩ Q ↔
      let n := (loraRxLen h c).toNat
      let bus' := if h.expected = 0 then .r 0x13 1 (.ok (be32 [c.lora.rd 0x13])) :: bus else bus
      if n > h.packet.length then Q (.error Gen.SX127X_ERR_INVALID_ARG) h ⟨c, bus', cbs⟩
      else Q (.ok ()) { h with expected := (loraRxLen h c).toUInt16,
                               packet := h.packet.wrs 0 (loraPacket c (c.lora.rd 0x10) n) }
        ⟨if n = 0 then { c with lora := c.lora.wr 0x0d (c.lora.rd 0x10) }
          else { c with lora := c.lora.wr 0x0d (c.lora.rd 0x10 + UInt8.ofNat n) },
         .rb 0 n (.ok (loraPacket c (c.lora.rd 0x10) n))
           :: .w 0x0d [c.lora.rd 0x10] (.ok ()) :: .r 0x10 1 (.ok (be32 [c.lora.rd 0x10])) :: bus', cbs⟩ := by
  have hlen0d : 0x0d < c.lora.length := by rw [wf.hl]; decide
  have wf1 : ({ c with lora := c.lora.wr 0x0d (c.lora.rd 0x10) } : Chip).WF := wf.lora_wr ..
  have hmap : ∀ n, ((List.range n).map (fun i => c.buf.rd (((c.lora.rd 0x10).toNat + i) % 256))).length = n := by simp
  unfold loraRxReadPayload loraRxLen
  simp only [wp_bind, wp_checkModulation, hm, ne_eq, not_true_eq_false, ↓reduceIte, wp_getH]
  split <;> rename_i hexp <;>
    simp only [wp_rread, wp_pure, Gen.REGRXNBBYTES, readN_one_lora _ 0x13 hl (by decide) (by decide), be32_single] <;>
    rw [wp_ite] <;> split <;> rename_i hfit
  all_goals try exact wp_fail ..
  all_goals
    simp only [wp_bind, wp_modH, wp_rread, wp_swrite, wp_getH, Gen.REGFIFORXCURRENTADDR,
      Gen.REGFIFOADDRPTR, Gen.REGFIFO, readN_one_lora _ 0x10 hl (by decide) (by decide), be32_single, writeN_one,
      write_lora _ 0x0d _ hl (by decide) (by decide) (by decide)]
    rw [wp_ite, if_pos (by omega), wp_bind, wp_bread, readN_fifo_lora _ (by exact hl) wf1]
    simp only [rd_wr_same _ _ _ hlen0d, wr_wr_same]
    unfold packetCopy
    simp only [wp_bind, wp_getH]
    rw [wp_ite, if_pos (by rw [hmap]; omega), wp_setH]
    simp only [hm, loraPacket]

/-- explicit and implicit header differ only in where the length `n` comes from (`loraRxLen`) -/
theorem rx_done_len (fuel : Nat) (h : Handle) (c : Chip) (wf : c.WF) (hl : c.isLora = true)
    (hm : h.activeModem = Gen.SX127x_MODULATION_LORA) (hcb : h.rxCb = true) (n : UInt8) (hn : loraRxLen h c = n)
    (hcap : n.toNat ≤ h.packet.length)
    (hcad : c.lora.rd 0x12 &&& 0x04 = 0) (hcrc : c.lora.rd 0x12 &&& 0x20 = 0) (hrx : c.lora.rd 0x12 &&& 0x40 ≠ 0) :
    wp (handleInterrupt fuel) h ⟨c, [], []⟩ (fun r h' s' =>
      s'.cbs = [.rx (loraPacket c (c.lora.rd 0x10) n.toNat) n.toNat] ∧
      h' = afterLoraRx h (loraPacket c (c.lora.rd 0x10) n.toNat) ∧
      s'.chip.lora.rd 0x12 = c.lora.rd 0x12 &&& ~~~ c.lora.rd 0x12 ∧
      s'.chip.buf = c.buf ∧ s'.chip.shared = c.shared ∧ s'.chip.fsk = c.fsk) := by
  have wf1 : ({ c with lora := c.lora.wr 0x12 (c.lora.rd 0x12 &&& ~~~ c.lora.rd 0x12) } : Chip).WF :=
    wf.lora_wr ..
  have hn' : loraRxLen h { c with lora := c.lora.wr 0x12 (c.lora.rd 0x12 &&& ~~~ c.lora.rd 0x12) } = n := by
    rw [← hn]; unfold loraRxLen; rw [show (c.lora.wr 0x12 _).rd 0x13 = c.lora.rd 0x13 from rd_wr_ne _ 0x12 0x13 _ (by decide)]
  rw [wp_handleInterrupt_lora _ _ _ _ hm]
  unfold loraHandleInterrupt loraReadGuard
  rw [wp_lora_ack _ _ _ _ _ _ hl]
  simp only [wp_bind, wp_getH, irq_bits, hcad, hcrc, hrx, ne_eq,
    not_true_eq_false, not_false_eq_true, ↓reduceIte]
  rw [wp_attempt, wp_loraRxReadPayload _ _ _ _ _ wf1 (by exact hl) hm]
  simp only [hn', if_neg (Nat.not_lt.2 hcap), rd_wr_ne _ 0x12 0x10 _ (by decide), loraPacket]
  unfold rxCallback
  simp only [wp_bind, wp_pure, wp_getH, hcb, ↓reduceIte, wp_cb, wp_modH]
  have hlen : ((List.range n.toNat).map (fun i => c.buf.rd (((c.lora.rd 0x10).toNat + i) % 256))).length = n.toNat := by
    simp
  have htake := wrs_take h.packet ((List.range n.toNat).map (fun i => c.buf.rd (((c.lora.rd 0x10).toNat + i) % 256)))
    (by rw [hlen]; exact hcap)
  rw [hlen] at htake
  have hu16 : n.toUInt16.toNat = n.toNat := by simp
  simp only [hu16, htake]
  refine ⟨by trivial, ?_, ?_, ?_, ?_, ?_⟩
  · simp only [afterLoraRx, hm, hcb]
  · split <;> simp only [rd_wr_ne _ 0x0d 0x12 _ (by decide)] <;> exact rd_wr_same _ _ _ (by rw [wf.hl]; decide)
  · split <;> rfl
  · split <;> rfl
  · split <;> rfl

/-- **C05, explicit header.** In LoRa mode, when the chip has raised RxDone without CadDone and
    without PayloadCrcError (any combination of the other flags), for a handle in explicit-header
    mode (`expected_packet_length = 0`, `hexp`) with a receive callback, every packet length
    0..255 reported in RegRxNbBytes that fits the packet buffer (any buffer size), every start
    address in RegFifoRxCurrentAddr (wrap-around included), every buffer content, every prior
    FIFO pointer and every other handle field: one handler invocation invokes the receive
    callback exactly once, with exactly the bytes the chip stored and the reported length,
    acknowledges exactly the flags it read, and leaves `expected_packet_length` and the hop
    counter at 0.  That earlier calls leave the handle in explicit-header mode is a hypothesis
    here, not part of the claim. -/
theorem C05_rx_done (fuel : Nat) (h : Handle) (c : Chip) (wf : c.WF) (hl : c.isLora = true)
    (hm : h.activeModem = Gen.SX127x_MODULATION_LORA) (hcb : h.rxCb = true) (hexp : h.expected = 0)
    (hcap : (c.lora.rd 0x13).toNat ≤ h.packet.length)
    (hcad : c.lora.rd 0x12 &&& 0x04 = 0) (hcrc : c.lora.rd 0x12 &&& 0x20 = 0) (hrx : c.lora.rd 0x12 &&& 0x40 ≠ 0) :
    wp (handleInterrupt fuel) h ⟨c, [], []⟩ (fun r h' s' =>
      s'.cbs = [.rx (loraPacket c (c.lora.rd 0x10) (c.lora.rd 0x13).toNat) (c.lora.rd 0x13).toNat] ∧
      h' = afterLoraRx h (loraPacket c (c.lora.rd 0x10) (c.lora.rd 0x13).toNat) ∧
      s'.chip.lora.rd 0x12 = c.lora.rd 0x12 &&& ~~~ c.lora.rd 0x12 ∧
      s'.chip.buf = c.buf ∧ s'.chip.shared = c.shared ∧ s'.chip.fsk = c.fsk) :=
  rx_done_len fuel h c wf hl hm hcb _ (if_pos hexp) hcap hcad hcrc hrx

/-- **C05, implicit header.** With a length configured by `sx127x_lora_set_implicit_header`
    (`expected_packet_length ≠ 0`, `hexp`; any 16-bit value, the code uses its low byte) whose low
    byte fits the packet buffer, and a receive callback, when the chip has raised RxDone without
    CadDone and without PayloadCrcError, every start address in RegFifoRxCurrentAddr
    (wrap-around included), every buffer content, every prior FIFO pointer and every other
    handle field: one handler invocation invokes the receive callback exactly once, with
    exactly the bytes the chip stored and that length, acknowledges exactly the flags it read,
    and leaves `expected_packet_length` and the hop counter at 0 (so the length of the
    next packet is read from RegRxNbBytes).  That the configured length is still in the handle when
    the packet arrives is a hypothesis here, not part of the claim. -/
theorem C05_rx_done_implicit (fuel : Nat) (h : Handle) (c : Chip) (wf : c.WF) (hl : c.isLora = true)
    (hm : h.activeModem = Gen.SX127x_MODULATION_LORA) (hcb : h.rxCb = true) (hexp : h.expected ≠ 0)
    (hcap : h.expected.toUInt8.toNat ≤ h.packet.length)
    (hcad : c.lora.rd 0x12 &&& 0x04 = 0) (hcrc : c.lora.rd 0x12 &&& 0x20 = 0) (hrx : c.lora.rd 0x12 &&& 0x40 ≠ 0) :
    wp (handleInterrupt fuel) h ⟨c, [], []⟩ (fun r h' s' =>
      s'.cbs = [.rx (loraPacket c (c.lora.rd 0x10) h.expected.toUInt8.toNat) h.expected.toUInt8.toNat] ∧
      h' = afterLoraRx h (loraPacket c (c.lora.rd 0x10) h.expected.toUInt8.toNat) ∧
      s'.chip.lora.rd 0x12 = c.lora.rd 0x12 &&& ~~~ c.lora.rd 0x12 ∧
      s'.chip.buf = c.buf ∧ s'.chip.shared = c.shared ∧ s'.chip.fsk = c.fsk) :=
  rx_done_len fuel h c wf hl hm hcb _ (if_neg hexp) hcap hcad hcrc hrx

theorem rx_too_long_len (fuel : Nat) (h : Handle) (c : Chip) (wf : c.WF) (hl : c.isLora = true)
    (hm : h.activeModem = Gen.SX127x_MODULATION_LORA) (hlong : (loraRxLen h c).toNat > h.packet.length)
    (hcad : c.lora.rd 0x12 &&& 0x04 = 0) (hcrc : c.lora.rd 0x12 &&& 0x20 = 0) (hrx : c.lora.rd 0x12 &&& 0x40 ≠ 0) :
    wp (handleInterrupt fuel) h ⟨c, [], []⟩ (fun _ h' s' =>
      s'.cbs = [] ∧ h' = h ∧
      s'.chip.lora.rd 0x12 = c.lora.rd 0x12 &&& ~~~ c.lora.rd 0x12 ∧
      s'.chip.buf = c.buf ∧ s'.chip.shared = c.shared ∧ s'.chip.fsk = c.fsk) := by
  have wf1 : ({ c with lora := c.lora.wr 0x12 (c.lora.rd 0x12 &&& ~~~ c.lora.rd 0x12) } : Chip).WF :=
    wf.lora_wr ..
  have hn' : loraRxLen h { c with lora := c.lora.wr 0x12 (c.lora.rd 0x12 &&& ~~~ c.lora.rd 0x12) } = loraRxLen h c := by
    unfold loraRxLen; rw [show (c.lora.wr 0x12 _).rd 0x13 = c.lora.rd 0x13 from rd_wr_ne _ 0x12 0x13 _ (by decide)]
  rw [wp_handleInterrupt_lora _ _ _ _ hm]
  unfold loraHandleInterrupt loraReadGuard
  rw [wp_lora_ack _ _ _ _ _ _ hl]
  simp only [wp_bind, wp_getH, irq_bits, hcad, hcrc, hrx, ne_eq,
    not_true_eq_false, not_false_eq_true, ↓reduceIte]
  rw [wp_attempt, wp_loraRxReadPayload _ _ _ _ _ wf1 (by exact hl) hm]
  simp only [hn', if_pos hlong, wp_bind, wp_modH, wp_fail]
  exact ⟨trivial, by cases h; simp_all, rd_wr_same _ _ _ (by rw [wf.hl]; decide), trivial, trivial, trivial⟩

/-- **C05, a packet longer than the packet buffer** (builds with a small
    CONFIG_SX127X_MAX_PACKET_SIZE): it is not read and not delivered, the handle is exactly what
    it was, and the flags are acknowledged as read.  Explicit header (`hexp`). -/
theorem C05_rx_too_long (fuel : Nat) (h : Handle) (c : Chip) (wf : c.WF) (hl : c.isLora = true)
    (hm : h.activeModem = Gen.SX127x_MODULATION_LORA) (hexp : h.expected = 0)
    (hlong : (c.lora.rd 0x13).toNat > h.packet.length)
    (hcad : c.lora.rd 0x12 &&& 0x04 = 0) (hcrc : c.lora.rd 0x12 &&& 0x20 = 0) (hrx : c.lora.rd 0x12 &&& 0x40 ≠ 0) :
    wp (handleInterrupt fuel) h ⟨c, [], []⟩ (fun _ h' s' =>
      s'.cbs = [] ∧ h' = h ∧
      s'.chip.lora.rd 0x12 = c.lora.rd 0x12 &&& ~~~ c.lora.rd 0x12 ∧
      s'.chip.buf = c.buf ∧ s'.chip.shared = c.shared ∧ s'.chip.fsk = c.fsk) :=
  rx_too_long_len fuel h c wf hl hm (by rw [loraRxLen, if_pos hexp]; exact hlong) hcad hcrc hrx

/-- the same in implicit-header mode: a configured length beyond the packet buffer -/
theorem C05_rx_too_long_implicit (fuel : Nat) (h : Handle) (c : Chip) (wf : c.WF) (hl : c.isLora = true)
    (hm : h.activeModem = Gen.SX127x_MODULATION_LORA) (hexp : h.expected ≠ 0)
    (hlong : h.expected.toUInt8.toNat > h.packet.length)
    (hcad : c.lora.rd 0x12 &&& 0x04 = 0) (hcrc : c.lora.rd 0x12 &&& 0x20 = 0) (hrx : c.lora.rd 0x12 &&& 0x40 ≠ 0) :
    wp (handleInterrupt fuel) h ⟨c, [], []⟩ (fun _ h' s' =>
      s'.cbs = [] ∧ h' = h ∧
      s'.chip.lora.rd 0x12 = c.lora.rd 0x12 &&& ~~~ c.lora.rd 0x12 ∧
      s'.chip.buf = c.buf ∧ s'.chip.shared = c.shared ∧ s'.chip.fsk = c.fsk) :=
  rx_too_long_len fuel h c wf hl hm (by rw [loraRxLen, if_neg hexp]; exact hlong) hcad hcrc hrx

theorem crc_error_all (fuel : Nat) (h : Handle) (c : Chip) (hl : c.isLora = true)
    (hm : h.activeModem = Gen.SX127x_MODULATION_LORA)
    (hcad : c.lora.rd 0x12 &&& 0x04 = 0) (hcrc : c.lora.rd 0x12 &&& 0x20 ≠ 0) :
    wp (handleInterrupt fuel) h ⟨c, [], []⟩ (fun _ h' s' =>
      s'.cbs = [] ∧ h' = { h with curFreq := 0 } ∧
      s'.bus = [.w 0x12 [c.lora.rd 0x12] (.ok ()), .r 0x12 1 (.ok (be32 [c.lora.rd 0x12]))] ∧
      s'.chip = { c with lora := c.lora.wr 0x12 (c.lora.rd 0x12 &&& ~~~ c.lora.rd 0x12) }) := by
  rw [wp_handleInterrupt_lora _ _ _ _ hm]
  unfold loraHandleInterrupt
  rw [wp_lora_ack _ _ _ _ _ _ hl]
  simp only [wp_bind, wp_getH, irq_bits, hcad, hcrc, ne_eq, not_true_eq_false, not_false_eq_true,
    ↓reduceIte, wp_modH]
  exact ⟨trivial, trivial, trivial, trivial⟩

/-- a packet flagged with a payload CRC error is never delivered: the handler only acknowledges
    the flags and restarts the hop sequence -/
theorem C05_crc_error (fuel : Nat) (h : Handle) (c : Chip) (hl : c.isLora = true)
    (hm : h.activeModem = Gen.SX127x_MODULATION_LORA)
    (hcad : c.lora.rd 0x12 &&& 0x04 = 0) (hcrc : c.lora.rd 0x12 &&& 0x20 ≠ 0) :
    wp (handleInterrupt fuel) h ⟨c, [], []⟩ (fun r h' s' =>
      s'.cbs = [] ∧ h' = { h with curFreq := 0 } ∧
      s'.bus = [.w 0x12 [c.lora.rd 0x12] (.ok ()), .r 0x12 1 (.ok (be32 [c.lora.rd 0x12]))]) :=
  wp_mono _ _ _ _ _ (fun _ _ _ hq => ⟨hq.1, hq.2.1, hq.2.2.1⟩) (crc_error_all fuel h c hl hm hcad hcrc)

/-- non-vacuity: a chip state meeting the hypotheses, with a packet that wraps around -/
example : let c : Chip := { Chip.init with shared := Chip.init.shared.wr 1 0x85,
                                             lora := ((Chip.init.lora.wr 0x12 0x50).wr 0x13 3).wr 0x10 0xff }
    c.WF ∧ c.isLora = true ∧ c.lora.rd 0x12 &&& 0x04 = 0 ∧ c.lora.rd 0x12 &&& 0x20 = 0 ∧ c.lora.rd 0x12 &&& 0x40 ≠ 0
      ∧ (loraPacket c (c.lora.rd 0x10) (c.lora.rd 0x13).toNat).length = 3 := by
  refine ⟨⟨by decide +kernel, by decide +kernel, by decide +kernel, by decide +kernel⟩, by decide +kernel, by decide +kernel,
    by decide +kernel, by decide +kernel, by decide +kernel⟩

/-- **C05 in the cached build, after any history.** From any state satisfying the invariant of
    C01 (so any state reachable by an admissible history), with LoRa active, explicit header, a
    receive callback registered and an application that does nothing inside callbacks: when the
    chip has raised RxDone (without CadDone / PayloadCrcError) for a packet that fits the packet
    buffer, one handler invocation reports exactly one callback, the receive callback with the
    chip's bytes and length. -/
theorem C05_cached (c : SysCfg) (hc : c.cached = true) (hnr : c.NoReact) (s : Sys) (i : Inv s.world)
    (h : Handle) (hh : s.handle = some h) (hl : s.world.chip.isLora = true)
    (hm : h.activeModem = Gen.SX127x_MODULATION_LORA) (hcb : h.rxCb = true) (hexp : h.expected = 0)
    (hcap : (s.world.chip.lora.rd 0x13).toNat ≤ h.packet.length)
    (hcad : s.world.chip.lora.rd 0x12 &&& 0x04 = 0) (hcrc : s.world.chip.lora.rd 0x12 &&& 0x20 = 0)
    (hrx : s.world.chip.lora.rd 0x12 &&& 0x40 ≠ 0) :
    let st := s.step c (.api .irq [] [])
    let ch := s.world.chip
    ∃ cbs bus, st.2 = .ret (.ok .none) cbs bus ∧
      cbs.map (·.ev) = [.rx (loraPacket ch (ch.lora.rd 0x10) (ch.lora.rd 0x13).toNat) (ch.lora.rd 0x13).toNat] ∧
      st.1.handle = some (afterLoraRx h (loraPacket ch (ch.lora.rd 0x10) (ch.lora.rd 0x13).toNat)) ∧
      Inv st.1.world := by
  intro st ch
  obtain ⟨r0, h', ps, cbs, bus, hobs, hhd, hchip, ⟨hq1, hq2, _⟩, hcbs, hinv⟩ :=
    step_cached_irq c hc hnr s i h hh _ (C05_rx_done c.fuel h s.world.chip i.chip hl hm hcb hexp hcap hcad hcrc hrx)
  exact ⟨cbs, bus, hobs, by rw [hcbs, hq1]; rfl, hq2 ▸ hhd, hinv⟩

/-- **C05 in the cached build, implicit header.** From any state satisfying the invariant of
    C01, with LoRa active, a configured implicit-header length that fits the packet buffer, a
    receive callback registered and an application that does nothing inside callbacks: when the
    chip has raised RxDone (without CadDone / PayloadCrcError), one handler invocation reports
    exactly one callback, the receive callback with the chip's bytes and the configured length. -/
theorem C05_cached_implicit (c : SysCfg) (hc : c.cached = true) (hnr : c.NoReact) (s : Sys) (i : Inv s.world)
    (h : Handle) (hh : s.handle = some h) (hl : s.world.chip.isLora = true)
    (hm : h.activeModem = Gen.SX127x_MODULATION_LORA) (hcb : h.rxCb = true) (hexp : h.expected ≠ 0)
    (hcap : h.expected.toUInt8.toNat ≤ h.packet.length)
    (hcad : s.world.chip.lora.rd 0x12 &&& 0x04 = 0) (hcrc : s.world.chip.lora.rd 0x12 &&& 0x20 = 0)
    (hrx : s.world.chip.lora.rd 0x12 &&& 0x40 ≠ 0) :
    let st := s.step c (.api .irq [] [])
    let ch := s.world.chip
    ∃ cbs bus, st.2 = .ret (.ok .none) cbs bus ∧
      cbs.map (·.ev) = [.rx (loraPacket ch (ch.lora.rd 0x10) h.expected.toUInt8.toNat) h.expected.toUInt8.toNat] ∧
      st.1.handle = some (afterLoraRx h (loraPacket ch (ch.lora.rd 0x10) h.expected.toUInt8.toNat)) ∧
      Inv st.1.world := by
  intro st ch
  obtain ⟨r0, h', ps, cbs, bus, hobs, hhd, hchip, ⟨hq1, hq2, _⟩, hcbs, hinv⟩ :=
    step_cached_irq c hc hnr s i h hh _ (C05_rx_done_implicit c.fuel h s.world.chip i.chip hl hm hcb hexp hcap hcad hcrc hrx)
  exact ⟨cbs, bus, hobs, by rw [hcbs, hq1]; rfl, hq2 ▸ hhd, hinv⟩

theorem fill_read (data : List UInt8) (start : Nat) (m : Nat) (hm : m ≤ 256) (b : Mem) (hb : b.length = 256) :
    ((List.range m).foldl (fun b i => b.wr ((start + i) % 256) (data.getD i 0)) b).length = 256 ∧
    ∀ j, j < m → ((List.range m).foldl (fun b i => b.wr ((start + i) % 256) (data.getD i 0)) b).rd ((start + j) % 256) = data.getD j 0 := by
  induction m with
  | zero => exact ⟨by simpa using hb, fun j hj => absurd hj (Nat.not_lt_zero _)⟩
  | succ n ih =>
    obtain ⟨hl, hr⟩ := ih (by omega)
    rw [List.range_succ, List.foldl_append]
    simp only [List.foldl_cons, List.foldl_nil]
    refine ⟨by rw [Mem.length_wr]; exact hl, ?_⟩
    intro j hj
    by_cases hjn : j = n
    · subst hjn
      exact rd_wr_same _ _ _ (by rw [hl]; exact Nat.mod_lt _ (by decide))
    · have hne : (start + n) % 256 ≠ (start + j) % 256 := by omega
      rw [rd_wr_ne _ _ _ _ hne]
      exact hr j (by omega)

/-- a LoRa packet as the chip receives it: where it is stored in the 256-byte buffer, whether
    its payload CRC failed, and its (at most 255) bytes -/
structure LoraPkt where
  start : UInt8
  crcErr : Bool
  data : List UInt8

theorem loraRx_chip (c : Chip) (wf : c.WF) (hflags : c.lora.rd 0x12 = 0) (p : LoraPkt) (hlen : p.data.length ≤ 255) :
    let c' := Env.apply c (.loraRx p.start p.crcErr p.data)
    c'.shared = c.shared ∧ c'.fsk = c.fsk ∧ c'.WF ∧
    c'.lora.rd 0x12 = 0x50 ||| (if p.crcErr then 0x20 else 0) ∧
    c'.lora.rd 0x10 = p.start ∧ (c'.lora.rd 0x13).toNat = p.data.length ∧
    loraPacket c' p.start p.data.length = p.data := by
  intro c'
  have htake : p.data.take 255 = p.data := List.take_of_length_le hlen
  have hc' : c' = { c with
      buf := (List.range p.data.length).foldl (fun b i => b.wr ((p.start.toNat + i) % 256) (p.data.getD i 0)) c.buf,
      lora := (((c.lora.wr 0x10 p.start).wr 0x13 (UInt8.ofNat p.data.length)).wr 0x25 (p.start + UInt8.ofNat p.data.length)).wr 0x12
        ((((c.lora.wr 0x10 p.start).wr 0x13 (UInt8.ofNat p.data.length)).wr 0x25 (p.start + UInt8.ofNat p.data.length)).rd 0x12 ||| 0x50 ||| (if p.crcErr then 0x20 else 0)) } := by
    show Env.apply c (.loraRx p.start p.crcErr p.data) = _
    unfold Env.apply
    simp only [htake]
  obtain ⟨hfl, hfr⟩ := fill_read p.data p.start.toNat p.data.length (by omega) c.buf wf.hb
  rw [hc']
  refine ⟨rfl, rfl, ⟨wf.hs, by simp only [Mem.length_wr, wf.hl], wf.hf, hfl⟩, ?_, ?_, ?_, ?_⟩
  · simp only [Mem.rd_wr, Mem.length_wr, wf.hl, hflags, Nat.reduceEqDiff, Nat.reduceLT, false_and, and_self, ↓reduceIte,
      UInt8.zero_or]
  · simp only [Mem.rd_wr, Mem.length_wr, wf.hl, Nat.reduceEqDiff, Nat.reduceLT, false_and, and_self, ↓reduceIte]
  · simp only [Mem.rd_wr, Mem.length_wr, wf.hl, Nat.reduceEqDiff, Nat.reduceLT, false_and, and_self, ↓reduceIte,
      UInt8.toNat_ofNat']
    omega
  · unfold loraPacket
    apply List.ext_getElem
    · simp
    · intro i h1 h2
      simp only [List.getElem_map, List.getElem_range]
      have hi : i < p.data.length := by simpa using h1
      rw [hfr i hi]
      simp [List.getD_eq_getElem?_getD, hi]

/-- `C05_crc_error` with the chip afterwards: only the flags are acknowledged -/
theorem C05_crc_error_chip (fuel : Nat) (h : Handle) (c : Chip) (hl : c.isLora = true)
    (hm : h.activeModem = Gen.SX127x_MODULATION_LORA)
    (hcad : c.lora.rd 0x12 &&& 0x04 = 0) (hcrc : c.lora.rd 0x12 &&& 0x20 ≠ 0) :
    wp (handleInterrupt fuel) h ⟨c, [], []⟩ (fun _ h' s' =>
      s'.cbs = [] ∧ h' = { h with curFreq := 0 } ∧
      s'.chip = { c with lora := c.lora.wr 0x12 (c.lora.rd 0x12 &&& ~~~ c.lora.rd 0x12) }) :=
  wp_mono _ _ _ _ _ (fun _ _ _ hq => ⟨hq.1, hq.2.1, hq.2.2.2⟩) (crc_error_all fuel h c hl hm hcad hcrc)

/-- a LoRa receiver between two packets: coherent cache, LoRa page selected, explicit-header
    reception with a callback, a buffer for the longest packet, all interrupt flags cleared -/
structure LoraIdle (s : Sys) (h : Handle) : Prop where
  inv : Inv s.world
  handle : s.handle = some h
  page : s.world.chip.isLora = true
  modem : h.activeModem = Gen.SX127x_MODULATION_LORA
  cb : h.rxCb = true
  exp : h.expected = 0
  cap : 255 ≤ h.packet.length
  flags : s.world.chip.lora.rd 0x12 = 0

/-- the callbacks a packet must produce -/
def LoraPkt.expected (p : LoraPkt) : List CbEvent := if p.crcErr then [] else [.rx p.data p.data.length]

/-- what the application sees of a sequence of packets, each followed by one handler invocation -/
def LoraSeen : List LoraPkt → List Obs → Prop
  | [], [] => True
  | p :: ps, .env :: o :: rest => o.cbEvents = p.expected ∧ (∃ r cbs bus, o = .ret r cbs bus) ∧ LoraSeen ps rest
  | _, _ => False

def loraOps (ps : List LoraPkt) : List Op :=
  ps.flatMap fun p => [.env (.loraRx p.start p.crcErr p.data), .api .irq [] []]

theorem LoraIdle.packet (c : SysCfg) (hc : c.cached = true) (hnr : c.NoReact) {s : Sys} {h : Handle} (hi : LoraIdle s h)
    (p : LoraPkt) (hlen : p.data.length ≤ 255) :
    let s1 := (s.step c (.env (.loraRx p.start p.crcErr p.data))).1
    (s.step c (.env (.loraRx p.start p.crcErr p.data))).2 = .env ∧
    ∃ r cbs bus h', (s1.step c (.api .irq [] [])).2 = .ret r cbs bus ∧ cbs.map (·.ev) = p.expected ∧
      LoraIdle (s1.step c (.api .irq [] [])).1 h' := by
  intro s1
  refine ⟨rfl, ?_⟩
  obtain ⟨e1, e2, wf1, f12, f10, f13, hpkt⟩ := loraRx_chip s.world.chip hi.inv.chip hi.flags p hlen
  have i1 : Inv s1.world := hi.inv.env (e := .loraRx p.start p.crcErr p.data) rfl
  have hl1 : s1.world.chip.isLora = true := by
    show (Env.apply s.world.chip _).isLora = true
    unfold Chip.isLora; rw [e1]; exact hi.page
  have hh1 : s1.handle = some h := hi.handle
  cases hce : p.crcErr with
  | false =>
    have hflag : s1.world.chip.lora.rd 0x12 = 0x50 := by
      show (Env.apply s.world.chip _).lora.rd 0x12 = _; rw [f12, hce]; rfl
    obtain ⟨r0, h', ps, cbs, bus, hobs, hhd, hchip, ⟨q1, q2, q3, _, q5, _⟩, hcbs, hinv⟩ :=
      step_cached_irq c hc hnr s1 i1 h hh1 _ (C05_rx_done c.fuel h s1.world.chip i1.chip hl1 hi.modem hi.cb hi.exp
        (by show ((Env.apply s.world.chip _).lora.rd 0x13).toNat ≤ _; rw [f13]; exact Nat.le_trans hlen hi.cap)
        (by rw [hflag]; decide) (by rw [hflag]; decide) (by rw [hflag]; decide))
    have hp13 : (s1.world.chip.lora.rd 0x13).toNat = p.data.length := f13
    have hp10 : s1.world.chip.lora.rd 0x10 = p.start := f10
    refine ⟨_, cbs, bus, h', hobs, ?_, ⟨hinv, hhd, ?_, ?_, ?_, ?_, ?_, ?_⟩⟩
    · rw [hcbs, q1, hp10, hp13]
      show [CbEvent.rx (loraPacket (Env.apply s.world.chip _) p.start p.data.length) p.data.length].reverse = _
      rw [hpkt]; unfold LoraPkt.expected; rw [hce]; rfl
    · rw [hchip]; unfold Chip.isLora; rw [q5]; exact hl1
    · rw [q2]; exact hi.modem
    · rw [q2]; exact hi.cb
    · rw [q2]; rfl
    · rw [q2]; show (h.packet.wrs 0 _).length ≥ 255; rw [Mem.length_wrs]; exact hi.cap
    · rw [hchip, q3]; exact u8_and_not_self _
  | true =>
    have hflag : s1.world.chip.lora.rd 0x12 = 0x70 := by
      show (Env.apply s.world.chip _).lora.rd 0x12 = _; rw [f12, hce]; rfl
    obtain ⟨r0, h', ps, cbs, bus, hobs, hhd, hchip, ⟨q1, q2, q3⟩, hcbs, hinv⟩ :=
      step_cached_irq c hc hnr s1 i1 h hh1 _ (C05_crc_error_chip c.fuel h s1.world.chip hl1 hi.modem
        (by rw [hflag]; decide) (by rw [hflag]; decide))
    refine ⟨_, cbs, bus, h', hobs, ?_, ⟨hinv, hhd, ?_, ?_, ?_, ?_, ?_, ?_⟩⟩
    · rw [hcbs, q1]; unfold LoraPkt.expected; rw [hce]; rfl
    · rw [hchip, q3]; exact hl1
    · rw [q2]; exact hi.modem
    · rw [q2]; exact hi.cb
    · rw [q2]; exact hi.exp
    · rw [q2]; exact hi.cap
    · rw [hchip, q3]
      show (s1.world.chip.lora.wr 0x12 _).rd 0x12 = 0
      rw [rd_wr_same _ _ _ (by rw [i1.chip.hl]; decide)]
      exact u8_and_not_self _

/-- **C05, sequences of packets.** In the build with the register cache, with an application
    that does nothing inside callbacks, from a LoRa receiver in explicit-header mode between two
    packets (`LoraIdle`: any state reachable by an admissible history that leaves it idle), for
    every sequence of packets — any lengths up to 255, any buffer positions (wrap-around
    included), any contents, with and without payload CRC error, in any order — each followed by
    one handler invocation: every invocation shows exactly the callbacks of *its* packet (the
    receive callback with exactly the bytes and the length, or nothing for a CRC-failed packet);
    the outcome for a packet does not depend on what preceded it. -/
theorem C05_sequence (c : SysCfg) (hc : c.cached = true) (hnr : c.NoReact) (ps : List LoraPkt)
    (hlen : ∀ p ∈ ps, p.data.length ≤ 255) (s : Sys) (h : Handle) (hi : LoraIdle s h) :
    LoraSeen ps (Sys.run c s (loraOps ps)).2 := by
  induction ps generalizing s h with
  | nil => simp [loraOps, Sys.run, LoraSeen]
  | cons p rest ih =>
    obtain ⟨ho1, r, cbs, bus, h', ho2, hcbs, hi'⟩ := hi.packet c hc hnr p (hlen p List.mem_cons_self)
    have hops : loraOps (p :: rest) = [.env (.loraRx p.start p.crcErr p.data), .api .irq [] []] ++ loraOps rest := by
      simp [loraOps]
    rw [hops, Sys.run_append]
    have hrun2 : (Sys.run c s [.env (.loraRx p.start p.crcErr p.data), .api .irq [] []]).2 =
        [(s.step c (.env (.loraRx p.start p.crcErr p.data))).2,
         ((s.step c (.env (.loraRx p.start p.crcErr p.data))).1.step c (.api .irq [] [])).2] := by
      simp [Sys.run]
    have hrun1 : (Sys.run c s [.env (.loraRx p.start p.crcErr p.data), .api .irq [] []]).1 =
        ((s.step c (.env (.loraRx p.start p.crcErr p.data))).1.step c (.api .irq [] [])).1 := by
      simp [Sys.run]
    show LoraSeen (p :: rest) (_ ++ _)
    rw [hrun2, hrun1, ho1, ho2]
    exact ⟨hcbs, ⟨r, cbs, bus, rfl⟩, ih (fun q hq => hlen q (List.mem_cons_of_mem _ hq)) _ h' hi'⟩

/-- non-vacuity: a chip in LoRa receive mode with cleared flags, a fresh cache and a handle with a
    255-byte buffer is `LoraIdle` -/
example : LoraIdle
    { world := { chip := { shared := (Mem.zeros 128).wr 1 0x85 } },
      handle := some { activeModem := Gen.SX127x_MODULATION_LORA, rxCb := true, packet := Mem.zeros 255 } }
    { activeModem := Gen.SX127x_MODULATION_LORA, rxCb := true, packet := Mem.zeros 255 } :=
  ⟨⟨⟨by decide +kernel, by decide +kernel, by decide +kernel, by decide +kernel⟩, Cache.fresh_wf, Cache.fresh_coh _, fun e he => by cases he⟩,
    rfl, by decide +kernel, rfl, rfl, rfl, by decide +kernel, by decide +kernel⟩

/-- the expectation distinguishes packets: a CRC-failed packet must produce nothing, a good one
    exactly its bytes -/
example : (LoraPkt.mk 250 false [1, 2, 3]).expected = [.rx [1, 2, 3] 3] ∧ (LoraPkt.mk 0 true [9]).expected = [] := ⟨rfl, rfl⟩

end Sx
