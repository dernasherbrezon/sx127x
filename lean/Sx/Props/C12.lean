import Sx.Lemmas.FloatSigned
import Sx.Lemmas.FloatOps
import Sx.Lemmas.FailFast
/-
  C12 — physical quantities are encoded and decoded within one register step.

  The float code of the driver is modelled in soft-float over `Rat` (Sx/F.lean, compared bit for
  bit with gcc on every run); the theorems are about that model and hold for *every* request in
  the documented ranges, not for samples: they rest on general facts about round-to-nearest
  (Sx/Lemmas/Rnd.lean, FloatOps.lean: relative error 2^-p, exactness on integers, `floor (rnd x) ≥ floor x`).
-/
namespace Sx
open Sx.Model

/-- **C12, carrier frequency (encode).** For every carrier from 137 MHz to 1020 MHz in 1 Hz steps
    the three bytes written to RegFrf are the big-endian bytes of a 24-bit value whose realised
    frequency `Frf * 32 MHz / 2^19` differs from the request by less than 250 Hz. -/
theorem C12_set_frequency (f : UInt64) (h1 : 137000000 ≤ f.toNat) (h2 : f.toNat ≤ 1020000000) :
    ∃ adj : Nat, frfOf f = some [u8 (adj / 65536), u8 (adj / 256), u8 adj] ∧ adj < 2 ^ 24 ∧
      |(adj : Rat) * 32000000 / 524288 - (f.toNat : Rat)| < 250 := by
  have hX1 : (71827456000000 : Rat) ≤ ((f.toNat * 524288 : Nat) : Rat) := by
    exact_mod_cast (by omega : 71827456000000 ≤ f.toNat * 524288)
  have hX2 : ((f.toNat * 524288 : Nat) : Rat) ≤ 534773760000000 := by
    exact_mod_cast (by omega : f.toNat * 524288 ≤ 534773760000000)
  unfold frfOf
  simp only
  rw [shift19 f h2, osc_value, F.ofNat_eq]
  -- two roundings of a number up to 5.4·10^14, each within 2^-24: the quotient is within 2 of exact
  obtain ⟨A, r1, a1, b1⟩ := round32_near ((f.toNat * 524288 : Nat) : Rat) (by linarith) (by linarith)
  rw [r1, F.div_fin _ _ (by norm_num)]
  obtain ⟨Q, r2, a2, b2⟩ := round32_near (A / 32000000) (by linarith) (by linarith)
  rw [r2, toUInt_fin 64 (by linarith) (by norm_num; linarith)]
  obtain ⟨q1, q2⟩ := floor_toNat Q (by linarith)
  refine ⟨_, rfl, by exact_mod_cast (by linarith : ((⌊Q⌋.toNat : Nat) : Rat) < 16777216), ?_⟩
  rw [show (f.toNat : Rat) = ((f.toNat * 524288 : Nat) : Rat) / 524288 by push_cast; ring, abs_lt]
  constructor <;> linarith

theorem nat_div_near (v d : Nat) (hd : 0 < d) :
    ((v / d : Nat) : Rat) ≤ (v : Rat) / (d : Rat) ∧ (v : Rat) / (d : Rat) < ((v / d : Nat) : Rat) + 1 := by
  have hd' : (0 : Rat) < (d : Rat) := by exact_mod_cast hd
  rw [le_div_iff₀ hd', div_lt_iff₀ hd']
  exact ⟨by exact_mod_cast Nat.div_mul_le_self v d, by exact_mod_cast Nat.lt_div_mul_add hd |>.trans_eq (by ring)⟩

/-- **C12, carrier frequency (decode).** For every non-zero 24-bit content of RegFrf,
    `sx127x_get_frequency` returns a value within 250 Hz of `Frf * 32 MHz / 2^19`. -/
theorem C12_get_frequency (raw : UInt32) (h0 : 0 < raw.toNat) (h : raw.toNat < 2 ^ 24) :
    ∃ r : Nat, freqOfRaw raw = some r ∧ |(r : Rat) - (raw.toNat : Rat) * 32000000 / 524288| < 250 := by
  have hn1 : (1 : Rat) ≤ (raw.toNat : Rat) := by exact_mod_cast h0
  have hn2 : (raw.toNat : Rat) < 16777216 := by exact_mod_cast h
  unfold freqOfRaw
  simp only
  rw [osc_value, ofNat32_exact raw.toNat h0 h, F.mul_fin]
  obtain ⟨P, r1, a1, b1⟩ := round32_near ((raw.toNat : Rat) * 32000000) (by linarith) (by linarith)
  rw [r1, toUInt_fin 64 (by linarith) (by norm_num; linarith)]
  obtain ⟨q1, q2⟩ := floor_toNat P (by linarith)
  obtain ⟨d1, d2⟩ := nat_div_near ⌊P⌋.toNat (2 ^ 19) (by norm_num)
  norm_num at d1 d2
  refine ⟨_, rfl, ?_⟩
  rw [abs_lt]
  constructor <;> linarith

/-- **C12, frequency deviation.** For every request from 600 Hz to 200 kHz the programmed value
    `v` (14 bits) realises `v * Fstep` within one step `Fstep = 32 MHz / 2^19` of the request. -/
theorem C12_fdev (q : Rat) (h1 : 600 ≤ q) (h2 : q ≤ 200000) :
    ∃ v : Nat, fdevValue (.fin q) = some v ∧ v < 2 ^ 14 ∧ |(v : Rat) * (32000000 / 524288) - q| < 32000000 / 524288 := by
  unfold fdevValue
  rw [fstep_value, F.div_fin _ _ (by norm_num)]
  obtain ⟨v, hv, hlo, hhi⟩ := floor_rnd32 16 (q / (32000000 / 524288)) (by linarith) (by linarith) (by norm_num; linarith)
  refine ⟨v, hv, by exact_mod_cast (by linarith : (v : Rat) < 16384), ?_⟩
  rw [abs_lt]
  constructor <;> linarith

/-- from the truncated rounded quotient `v` of `K / q` to the divider statement: the realised rate
    `K / v` is within one divider step of `q` -/
theorem divider_tail {K q u : Rat} {v : Nat} (hq : 0 < q) (hv : 0 < v) (hlo : K / q < (v : Rat) + 1)
    (hhi : (v : Rat) ≤ K / q + K / q * u) : K / ((v : Rat) + 1) < q ∧ q ≤ K / (v : Rat) * (1 + u) := by
  have hv' : (0 : Rat) < (v : Rat) := by exact_mod_cast hv
  have hK : K / q * q = K := div_mul_cancel₀ K (ne_of_gt hq)
  rw [div_lt_iff₀ (by linarith), div_mul_eq_mul_div, le_div_iff₀ hv']
  constructor
  · calc K = K / q * q := hK.symm
      _ < ((v : Rat) + 1) * q := mul_lt_mul_of_pos_right hlo hq
      _ = q * ((v : Rat) + 1) := mul_comm _ _
  · calc q * (v : Rat) ≤ q * (K / q + K / q * u) := mul_le_mul_of_nonneg_left hhi (le_of_lt hq)
      _ = K / q * q * (1 + u) := by ring
      _ = K * (1 + u) := by rw [hK]

/-- **C12, OOK bit rate.** For every request from 1200 to 25000 b/s the programmed divider `v`
    (16 bits) satisfies `v ≤ 32 MHz / rate (1 + 2^-24)` and `32 MHz / rate < v + 1`: the realised
    rate `32 MHz / v` lies within one divider step of the request. -/
theorem C12_ook_bitrate (q : Rat) (h1 : 1200 ≤ q) (h2 : q ≤ 25000) :
    ∃ v : Nat, ookBitrateValue (.fin q) = some v ∧ 0 < v ∧ v < 2 ^ 16 ∧
      32000000 / ((v : Rat) + 1) < q ∧ q ≤ 32000000 / (v : Rat) * (1 + 1 / 16777216) := by
  have hq0 : (0 : Rat) < q := by linarith
  have hx1 : (1280 : Rat) ≤ 32000000 / q := by rw [le_div_iff₀ hq0]; linarith
  have hx3 : 32000000 / q ≤ 26667 := by rw [div_le_iff₀ hq0]; linarith
  unfold ookBitrateValue
  rw [osc_value, F.div_fin _ _ (ne_of_gt hq0)]
  obtain ⟨v, hv, hlo, hhi⟩ := floor_rnd32 16 (32000000 / q) (by linarith) (by linarith) (by norm_num; linarith)
  have hv0 : 0 < v := by exact_mod_cast (by linarith : (0 : Rat) < (v : Rat))
  exact ⟨v, hv, hv0, by exact_mod_cast (by linarith : (v : Rat) < 65536), divider_tail hq0 hv0 hlo hhi⟩

/-- **C12, FSK bit rate.** For every request from 1200 to 300000 b/s that is a binary64 value (as
    every binary32 value is), the programmed 20-bit divider `v` (RegBitrate * 16 + BitrateFrac)
    satisfies `512 MHz / (v + 1) < rate ≤ 512 MHz / v * (1 + 2^-53)`: the realised rate
    `512 MHz / v` lies within one divider step of the request. -/
theorem C12_fsk_bitrate (q : Rat) (h1 : 1200 ≤ q) (h2 : q ≤ 300000) (hrep : F.round b64 q = .fin q) :
    ∃ v : Nat, fskBitrateValue (.fin q) = some v ∧ 0 < v ∧ v < 2 ^ 20 ∧
      512000000 / ((v : Rat) + 1) < q ∧ q ≤ 512000000 / (v : Rat) * (1 + 1 / 9007199254740992) := by
  have hq0 : (0 : Rat) < q := by linarith
  have hx1 : (1706 : Rat) ≤ 512000000 / q := by rw [le_div_iff₀ hq0]; linarith
  have hx3 : 512000000 / q ≤ 426667 := by rw [div_le_iff₀ hq0]; linarith
  have hosc : F.round b64 32000000 = .fin 32000000 := by
    exact_mod_cast round64_nat 32000000 (by norm_num) (by norm_num)
  have hnum : F.round b64 (32000000 * 16) = .fin 512000000 := by
    have := round64_nat 512000000 (by norm_num) (by norm_num)
    norm_num at this ⊢; exact this
  unfold fskBitrateValue
  simp only
  rw [osc_value, F.cvt_fin, F.cvt_fin, hosc, hrep, F.mul_fin, hnum, F.div_fin _ _ (ne_of_gt hq0)]
  obtain ⟨v, hv, hlo, hhi⟩ := floor_rnd64 32 (512000000 / q) (by linarith) (by linarith) (by norm_num; linarith)
  have hv0 : 0 < v := by exact_mod_cast (by linarith : (0 : Rat) < (v : Rat))
  exact ⟨v, hv, hv0, by exact_mod_cast (by linarith : (v : Rat) < 1048576), divider_tail hq0 hv0 hlo hhi⟩

/-- **C12, FSK bit rate, as the API receives it**: the request is a binary32 bit pattern. -/
theorem C12_fsk_bitrate_bits (bits : UInt32) (q : Rat) (hbits : F.ofBits32 bits = .fin q) (h1 : 1200 ≤ q) (h2 : q ≤ 300000) :
    ∃ v : Nat, fskBitrateValue (F.ofBits32 bits) = some v ∧ 0 < v ∧ v < 2 ^ 20 ∧
      512000000 / ((v : Rat) + 1) < q ∧ q ≤ 512000000 / (v : Rat) * (1 + 1 / 9007199254740992) := by
  rw [hbits]
  exact C12_fsk_bitrate q h1 h2 (cvt64_of_bits32 bits q hbits)

/-- non-vacuity: 4800 b/s is the bit pattern 0x45960000 -/
example : F.ofBits32 0x45960000 = .fin 4800 := by
  unfold F.ofBits32
  have : (0x45960000 : UInt32).toNat = 1167458304 := by decide
  simp only [this]
  norm_num

/-- the signed value of a byte (two's complement) -/
def int8 (v : UInt8) : Int := if v.toNat ≥ 128 then (v.toNat : Int) - 256 else v.toNat

/-- the sign-extended byte, a quarter and their product are binary32 values -/
theorem snrOf_eq (v : UInt8) : snrOf v = .fin ((int8 v : Rat) / 4) := by
  have hv : v.toNat < 256 := v.toNat_lt
  have hk : -128 ≤ int8 v ∧ int8 v ≤ 127 := by unfold int8; split <;> omega
  have h1 : F.ofInt b32 (int8 v) = .fin (int8 v : Rat) := by
    have := round_quarter (4 * int8 v) (by omega)
    rwa [show (((4 * int8 v : Int) : Rat) / 4) = (int8 v : Rat) by push_cast; ring] at this
  have h2 : f32 (1 / 4) = .fin (1 / 4) := by
    have := round_quarter 1 (by norm_num)
    rwa [Int.cast_one] at this
  show F.mul b32 (F.ofInt b32 (int8 v)) (f32 (1 / 4)) = _
  rw [h1, h2, F.mul_fin, mul_one_div, round_quarter _ (by omega)]

/-- **C12, SNR decode.** For all 256 values of RegPktSnrValue the result is exactly the datasheet
    formula `(signed) value / 4` dB (the product is exact in binary32). -/
theorem C12_snr (v : UInt8) : F.eq (snrOf v) (.fin ((int8 v : Rat) / 4)) = true := by
  rw [snrOf_eq]; exact beq_self_eq_true _

/-- **C12, FSK RSSI decode.** `-RssiValue / 2` dBm, truncated toward zero, for all 256 values.  The
    model's decode is this formula as written, so the theorem only reads the definition back; that
    the driver computes the same is the correspondence check's part. -/
theorem C12_fsk_rssi : ∀ v : UInt8, fskRssiOf v = -((v.toNat / 2 : Nat) : Int) := fun _ => rfl

/-- **C12, raw temperature decode.** The datasheet's reference conversion of RegTemp (-1 degree per
    LSB, two branches on bit 7): `255 - RegTemp` when bit 7 is set, `-RegTemp` otherwise, for all
    256 values; the result always fits the `int8_t` it is returned in (no implementation-defined
    narrowing), and the two branches cover 0..127 and -127..0. -/
theorem C12_raw_temperature_bv : ∀ b : BitVec 8,
    rawTemperatureOf ⟨b⟩ = (if 128 ≤ b.toNat then ((255 - b.toNat : Nat) : Int) else -(b.toNat : Int)) ∧
    -128 ≤ rawTemperatureOf ⟨b⟩ ∧ rawTemperatureOf ⟨b⟩ ≤ 127 := by
  decide +kernel

theorem C12_raw_temperature (v : UInt8) :
    rawTemperatureOf v = (if 128 ≤ v.toNat then ((255 - v.toNat : Nat) : Int) else -(v.toNat : Int)) ∧
    -128 ≤ rawTemperatureOf v ∧ rawTemperatureOf v ≤ 127 := C12_raw_temperature_bv v.toBitVec

/-- … and for every answer of chip and bus, a value `sx127x_fsk_ook_get_raw_temperature` returns is
    that conversion of some byte (the statement does not record that it is the byte read from
    RegTemp) -/
theorem C12_raw_temperature_call (h : Handle) :
    (fskOokGetRawTemperature h).fwp false (fun _ rh => ∀ t, rh.1 = .ok t → ∃ v : UInt8, t = rawTemperatureOf v) := by
  unfold fskOokGetRawTemperature checkFskOok
  simp only [DM.fwp_bind', DM.fwp_getH, DM.fwp_rread, DM.fwp_pure, DM.fwp_ite, DM.fwp_fail]
  split
  · intro t e; cases e
  · refine ⟨fun v t e => ⟨v, ?_⟩, fun c t e => by cases e⟩
    cases e; rfl

/-- **C12, packet strength (LoRa).** For every RegPktRssiValue, every RegPktSnrValue and either
    port offset: the refined value `sx127x_rx_get_packet_rssi` computes for a negative SNR is the
    datasheet's `-offset + PacketRssi + PacketSnr * 0.25`, truncated toward zero — the single
    precision sum is exact. -/
theorem C12_packet_rssi (value snr : UInt8) (off : Int) (hoff : off = Gen.RSSI_OFFSET_HF_PORT ∨ off = Gen.RSSI_OFFSET_LF_PORT) :
    rssiRefine ((value.toNat : Int) - off) (snrOf snr) =
      some (F.truncQ ((((value.toNat : Int) - off : Int) : Rat) + (int8 snr : Rat) / 4)) := by
  rw [snrOf_eq]
  have hv : value.toNat < 256 := value.toNat_lt
  have hs : snr.toNat < 256 := snr.toNat_lt
  have hk : -128 ≤ int8 snr ∧ int8 snr ≤ 127 := by unfold int8; split <;> omega
  have ho : off = 157 ∨ off = 164 := by
    rcases hoff with e | e <;> rw [e] <;> decide
  exact rssiRefine_exact _ (by rcases ho with e | e <;> omega) (by rcases ho with e | e <;> omega) _ hk.1 hk.2

/-- the 16-bit two's-complement reading of the AFC registers -/
def s16 (n : Nat) : Int := if 32768 ≤ n then (n : Int) - 65536 else n

/-- the 20-bit two's-complement reading of RegFei -/
def s20 (n : Nat) : Int := if 524288 ≤ n then (n : Int) - 1048576 else n

/-- **C12, frequency error (FSK/OOK).** For every content of RegAfcMsb/RegAfcLsb the value
    `sx127x_rx_get_frequency_error` returns is within 9/8 Hz of `AFC * Fstep` (two's complement,
    `Fstep = 32 MHz / 2^19`): two exact sign/step products, one rounded product of at most
    2·10^6, one truncation. -/
theorem C12_fsk_frequency_error (raw : UInt32) (h : raw.toNat < 65536) :
    ∃ v : Int, fskFreqError raw = some v ∧ |(v : Rat) - (s16 raw.toNat : Rat) * (32000000 / 524288)| < 9 / 8 := by
  obtain ⟨hσ, hm, hs⟩ := sign_mag raw 0x8000 0xFFFF 15 (by norm_num) rfl rfl h
  unfold fskFreqError
  simp only
  rw [fstep_value]
  obtain ⟨v, hv, e⟩ := fsk_error_val hσ _ hm
  rw [hs] at e
  exact ⟨v, hv, e⟩

/-- **C12, frequency error (LoRa).** For every 20-bit content of RegFei and each of the ten LoRa
    bandwidths, the value `sx127x_rx_get_frequency_error` returns is within 9/8 Hz of the
    datasheet formula `FreqError * 2^24 / Fxosc * BW / 500 kHz` (two's complement): four single
    precision roundings of a value below 2.8·10^5, the inexact constant, one truncation. -/
theorem C12_lora_frequency_error (raw : UInt32) (h : raw.toNat < 1048576) (bw : Nat) (hbw : LoraBw bw) :
    ∃ v : Int, loraFreqError raw bw = some v ∧
      |(v : Rat) - (s20 raw.toNat : Rat) * (16777216 / 32000000) * (bw : Rat) / 500000| < 9 / 8 := by
  obtain ⟨hσ, hm, hs⟩ := sign_mag raw 0x80000 0xFFFFF 19 (by norm_num) rfl rfl h
  unfold loraFreqError
  simp only
  rw [factor_value, f32_500000, ofNat32 bw (by have := hbw.bounds; omega)]
  obtain ⟨v, hv, e⟩ := lora_error_val hσ _ (lt_of_le_of_lt hm (by norm_num)) bw hbw
  have e' := e hm
  rw [hs] at e'
  exact ⟨v, hv, e'⟩

/-- the bandwidth a register code realises, as a rational -/
def bwP (me : Nat × Nat) : Rat := match bwPoint me.1 me.2 with | .fin p => p | _ => 0

theorem bwPoints_table :
    bwPoints.all (fun me => match bwPoint me.1 me.2 with | .fin p => decide (2604 ≤ p ∧ p ≤ 250000) | _ => false) = true ∧
    (match bwPoint 2 7 with | .fin p => decide (p ≤ 2605) | _ => false) = true := by
  decide +kernel

theorem bwPoints_fin (me : Nat × Nat) (h : me ∈ bwPoints) :
    bwPoint me.1 me.2 = .fin (bwP me) ∧ 2604 ≤ bwP me ∧ bwP me ≤ 250000 := by
  obtain ⟨p, hp, h1, h2⟩ := F.fin_of_test (List.all_eq_true.mp bwPoints_table.1 me h)
  unfold bwP
  rw [hp]
  exact ⟨rfl, h1, h2⟩

theorem bwP_first : bwP (2, 7) ≤ 2605 := by
  obtain ⟨p, hp, h⟩ := F.fin_of_test bwPoints_table.2
  unfold bwP
  rw [hp]
  exact h

/-- the driver's distance measure for a request `q` and a point: `fabsf(bandwidth - point)` -/
def bwTol (q : Rat) (me : Nat × Nat) : Rat := |rnd 24 (-126) (q - bwP me)|

theorem bwTol_model (q : Rat) (h1 : 2600 ≤ q) (h2 : q ≤ 250000) (me : Nat × Nat) (h : me ∈ bwPoints) :
    F.abs (F.sub b32 (.fin q) (bwPoint me.1 me.2)) = .fin (bwTol q me) ∧
    |bwTol q me - abs (q - bwP me)| ≤ abs (q - bwP me) * (1 / 16777216) + (2 : Rat) ^ (-(150 : Int)) := by
  obtain ⟨hb, hlo, hhi⟩ := bwPoints_fin me h
  obtain ⟨r, e⟩ := round_any (q - bwP me)
    (le_trans (abs_le.mpr ⟨by linarith, by linarith⟩) (by norm_num : (250000 : Rat) ≤ (2 : Rat) ^ (100 : Int)))
  exact ⟨by rw [hb, F.sub_fin, r, F.abs_fin]; rfl, le_trans (abs_abs_sub_abs_le _ _) e⟩

/-- the search of `sx127x_fsk_ook_calculate_bw_register` over rationals -/
def bwStepR (q : Rat) (acc : Rat × UInt8) (me : Nat × Nat) : Rat × UInt8 :=
  if bwTol q me < acc.1 then (bwTol q me, u8 (me.1 * 8 ||| me.2)) else acc

theorem bw_fold_sim (q : Rat) (h1 : 2600 ≤ q) (h2 : q ≤ 250000) (L : List (Nat × Nat)) (hL : ∀ me ∈ L, me ∈ bwPoints)
    (a : Rat) (c : UInt8) :
    L.foldl (fun (acc : F × UInt8) (me : Nat × Nat) =>
        if F.lt (F.abs (F.sub b32 (.fin q) (bwPoint me.1 me.2))) acc.1 = true
        then (F.abs (F.sub b32 (.fin q) (bwPoint me.1 me.2)), u8 (me.1 * 8 ||| me.2)) else acc) (.fin a, c)
      = (.fin (L.foldl (bwStepR q) (a, c)).1, (L.foldl (bwStepR q) (a, c)).2) := by
  induction L generalizing a c with
  | nil => rfl
  | cons x xs ih =>
    simp only [List.foldl_cons]
    have hx := (bwTol_model q h1 h2 x (hL x List.mem_cons_self)).1
    rw [hx]
    have hlt : F.lt (F.fin (bwTol q x)) (F.fin a) = decide (bwTol q x < a) := rfl
    rw [hlt]
    unfold bwStepR
    by_cases hc : bwTol q x < a
    · simp only [hc, decide_true, ↓reduceIte]
      exact ih (fun me hme => hL me (List.mem_cons_of_mem _ hme)) _ _
    · simp only [hc, decide_false, Bool.false_eq_true, ↓reduceIte]
      exact ih (fun me hme => hL me (List.mem_cons_of_mem _ hme)) _ _

/-- **C12, receiver bandwidth: the closest point.** For every requested bandwidth in the
    documented range 2600..250000 Hz (any real number, not only the 21 table values) the register
    programmed by `sx127x_fsk_ook_rx_set_bandwidth` / `…_set_afc_bandwidth` is the code of one of
    the 21 bandwidths the chip offers, and no other of them is closer to the request — up to the
    single-precision rounding of the distances: `|q - p| (1 - 2^-24) ≤ |q - p'| (1 + 2^-24) + 2^-149`
    for every other point `p'`. -/
theorem C12_rx_bandwidth_closest (q : Rat) (h1 : 2600 ≤ q) (h2 : q ≤ 250000) :
    ∃ me ∈ bwPoints, calculateBwRegister (.fin q) = u8 (me.1 * 8 ||| me.2) ∧
      ∀ me' ∈ bwPoints, |q - bwP me| * (1 - 1 / 16777216) ≤ |q - bwP me'| * (1 + 1 / 16777216) + (2 : Rat) ^ (-(149 : Int)) := by
  have hsim := bw_fold_sim q h1 h2 bwPoints (fun _ h => h) q 0
  have hcalc : calculateBwRegister (.fin q) = (bwPoints.foldl (bwStepR q) (q, 0)).2 := by
    unfold calculateBwRegister
    simp only
    rw [hsim]
  obtain ⟨m1, m2, m3⟩ := foldl_min bwPoints (bwTol q) (fun me => u8 (me.1 * 8 ||| me.2)) q 0
  have hfold : ∀ (a : Rat) (c : UInt8), bwPoints.foldl (bwStepR q) (a, c) =
      bwPoints.foldl (fun acc i => if bwTol q i < acc.1 then (bwTol q i, u8 (i.1 * 8 ||| i.2)) else acc) (a, c) := fun _ _ => rfl
  rw [← hfold] at m1 m2 m3
  -- the first point beats the initial tolerance, which is the request itself
  have hfirst : ((2, 7) : Nat × Nat) ∈ bwPoints := by decide
  obtain ⟨_, e0⟩ := bwTol_model q h1 h2 (2, 7) hfirst
  obtain ⟨_, p0lo, _⟩ := bwPoints_fin (2, 7) hfirst
  have p0hi := bwP_first
  have tiny : (2 : Rat) ^ (-(150 : Int)) ≤ 1 / 1000 := by norm_num
  have hbeat : bwTol q (2, 7) < q := by
    have a := abs_le.mp e0
    -- the first point lies in 2604..2605 and `q ≥ 2600`: the distance is at most `max (q - 2604) 5`
    have habs : |q - bwP (2, 7)| ≤ q - 2590 := by
      rw [abs_le]; constructor <;> linarith
    linarith
  have hne : bwPoints.foldl (bwStepR q) (q, 0) ≠ (q, 0) := by
    intro e
    have := m2 (2, 7) hfirst
    rw [e] at this
    exact absurd (lt_of_le_of_lt this hbeat) (lt_irrefl _)
  rcases m3 with e | ⟨i, hi, e⟩
  · exact absurd e hne
  · refine ⟨i, hi, by rw [hcalc, e], ?_⟩
    intro j hj
    have hij := m2 j hj
    rw [e] at hij
    have ei := abs_le.mp (bwTol_model q h1 h2 i hi).2
    have ej := abs_le.mp (bwTol_model q h1 h2 j hj).2
    have t2 : (2 : Rat) ^ (-(149 : Int)) = 2 * (2 : Rat) ^ (-(150 : Int)) := by norm_num
    rw [t2]
    linarith

/-- **C12, LoRa bandwidth decode.** The ten bandwidth codes of RegModemConfig1 decode to the
    datasheet's bandwidths in Hz; the six reserved codes are refused. -/
theorem C12_lora_bandwidth_decode :
    (List.range 16).map (fun c => bandwidthOfCode (UInt8.ofNat c)) =
      [some 7800, some 10400, some 15600, some 20800, some 31250, some 41700, some 62500, some 125000,
       some 250000, some 500000, none, none, none, none, none, none] := by decide

/-- the single-side receiver bandwidths of the datasheet (FSK column of the RxBw table, Hz) with
    their register code `RxBwMant << 3 | RxBwExp` -/
def rxBwTable : List (Nat × UInt8) :=
  [(2600, 0x17), (3100, 0x0f), (3900, 0x07), (5200, 0x16), (6300, 0x0e), (7800, 0x06),
   (10400, 0x15), (12500, 0x0d), (15600, 0x05), (20800, 0x14), (25000, 0x0c), (31300, 0x04),
   (41700, 0x13), (50000, 0x0b), (62500, 0x03), (83300, 0x12), (100000, 0x0a), (125000, 0x02),
   (166700, 0x11), (200000, 0x09), (250000, 0x01)]

/-- **C12, receiver bandwidth.** For each of the 21 bandwidths of the datasheet table, the value
    `sx127x_fsk_ook_rx_set_bandwidth` / `…_set_afc_bandwidth` write is the datasheet's register
    code (nearest-point search in single precision, decided in the kernel) -/
theorem C12_rx_bandwidth_table :
    rxBwTable.all (fun p => calculateBwRegister (F.ofNat b32 p.1) == p.2) = true := by decide +kernel

/-- the table has 21 entries, and their register codes are pairwise distinct -/
theorem C12_rx_bandwidth_codes_distinct : (rxBwTable.map (·.2)).Nodup ∧ rxBwTable.length = 21 := by decide

/-- the constants the conversions use are the datasheet's: RSSI offsets -157 dBm (HF port) and
    -164 dBm (LF port), crystal 32 MHz (as binary32), Fstep = 32 MHz / 2^19 and the
    frequency-error factor 2^24 / 32 MHz as the compiler folds them to binary32 -/
theorem C12_constants_are_datasheet :
    Gen.RSSI_OFFSET_HF_PORT = 157 ∧ Gen.RSSI_OFFSET_LF_PORT = 164 ∧
    Gen.SX127x_OSCILLATOR_FREQUENCY_bits = 0x4bf42400 ∧ Gen.SX127x_FSTEP_bits = 0x42742400 ∧
    Gen.SX127x_FREQ_ERROR_FACTOR_bits = 0x3f0637bd := by
  decide

end Sx
