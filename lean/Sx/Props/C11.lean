import Sx.Lemmas.FailFastAll
import Sx.Lemmas.HandleKeep
import Sx.Props.C01
/-
  C11 — SPI failures are reported, contained, and do not corrupt later packets.

  The predicates are defined in Sx/Lemmas/FailFast.lean and quantify over *every* answer of chip
  and bus: any value of a successful transfer and any error code of a failing one, at any
  transfer, any number of times.

  * `Prog.FailFast ex p` — at every request of `p` not exempted by `ex`, the continuation for a
    failed transfer is literally `return code;`: no further request (so no further register
    write), and the transfer's code is what the caller gets.
  * `Prog.fwp p false Q` — `p` never invokes the receive callback after a transfer has failed.
  * `DM.TX x` — whenever a transfer of `x` has failed, `x` ends with the handle it started with
    (Sx/Lemmas/HandleKeep.lean proves it for every public function that is not a packet operation).

  Cache content after a failed transfer is C01 (`C01_cache_coherent` covers every set of failing
  transfers).  What fault-free traffic does afterwards is C05/C06 for LoRa (whose statements
  quantify over every handle content except `expected_packet_length`, restored here) and the
  fault scripts of the correspondence check for FSK/OOK.
-/
namespace Sx
open Sx.Model DM

/-- **C11, first clause.** For every public function except the `void` interrupt handler, every
    argument and every handle: a failing transfer ends the call at once with that transfer's
    error code — the program has no request after it. The only exemption is the one the header
    documents: the SNR read inside `sx127x_rx_get_packet_rssi`. -/
theorem C11_failed_transfer_ends_call (cap fuel : Nat) (a : Api) (hirq : a.isIrq = false) (h : Handle) :
    (Api.prog cap fuel a h).FailFast (match a with | .rxGetPacketRssi => snrRead | _ => fun _ => False) :=
  (ff_api cap fuel a hirq).ff h

/-- the exemption is a single register read -/
theorem C11_exemption_is_snr_read (q : Req) : snrRead q ↔ q = .rread Gen.REGPKTSNRVALUE := by
  cases q <;> simp [snrRead]

/-- even there, a failure is not followed by any write: the function has no write request at all -/
theorem C11_rssi_never_writes (h : Handle) :
    (rxGetPacketRssi h).All (fun q => match q with | .swrite _ _ => False | .bwrite _ _ => False | _ => True) := by
  have : DM.All (fun q => match q with | .swrite _ _ => False | .bwrite _ _ => False | _ => True) rxGetPacketRssi := by
    unfold rxGetPacketRssi loraRxGetPacketSnr getFrequency checkModulation
    repeat (first
      | dm_step | (apply DM.All_rread; trivial) | (apply DM.All_sread; trivial) | split | dsimp only)
  exact this.all h

/-- **C11, second clause.** One invocation of the interrupt handler — LoRa, FSK or OOK, any flags,
    any handle, any packet — never invokes the receive callback after one of its transfers has
    failed: a packet whose bytes could not be read completely is not delivered. -/
theorem C11_no_delivery_after_failed_transfer (cap fuel : Nat) (h : Handle) :
    (Api.prog cap fuel .irq h).fwp false (fun _ _ => True) := by
  have : OKH (Api.prog cap fuel .irq) := by
    unfold Api.prog
    exact OKH_bind_NR (OKH_attempt (okh_irq fuel)) (fun _ => NR_pure _)
  exact this.q h

/-- **C11, per-packet state (FSK/OOK).** Reading the packet header — address-filter configuration,
    fixed length registers, length byte and node id from the FIFO — either completes, or a transfer
    failed and the handle is exactly what it was: no length is recorded for a header that was not
    read completely, so the next invocation starts over. -/
theorem C11_fsk_header_is_transactional (h : Handle) :
    (readPayloadHeader h).fwp false (fun failed rh => failed = true → rh.2 = h) :=
  tx_header.q h

/-- **C11, per-packet state (LoRa).** If a transfer fails while a received LoRa packet is read,
    the guarded read, which the handler gives the handle's own length to restore (`loraReadGuard
    h.expected`), ends with the handle exactly as it was before (the configured implicit-header
    length included). -/
theorem C11_lora_read_is_transactional (h : Handle) :
    (loraReadGuard h.expected h).fwp false (fun failed rh => failed = true → rh.2 = h) :=
  tx_loraGuard h

/-- **C11, no stale state from a failed call.** Every public function other than handle creation,
    the interrupt handler and the three FSK/OOK transmit calls, with any arguments on any handle: if
    one of its transfers failed, the handle is exactly what it was before the call — the driver's
    view of the configuration (header mode and implicit length, packet format, CRC type, hop list,
    modulation, mode) never runs ahead of a chip that was not written.
    `sx127x_lora_set_implicit_header`, `sx127x_lora_tx_set_explicit_header` and
    `sx127x_lora_set_frequency_hopping` satisfy it by fix fe89473: before it they updated the handle
    ahead of their register writes. -/
theorem C11_failed_call_keeps_handle (cap fuel : Nat) (a : Api) (hp : a.isPacketOp = false) (h : Handle) :
    (Api.prog cap fuel a h).fwp false (fun failed rh => failed = true → rh.2 = h) :=
  (tx_api cap fuel a hp).q h

/-- **C11, the transmit calls included.** Every public function except handle creation and the
    interrupt handler: after a failed transfer the handle differs from the one before the call at
    most in the per-packet fields (frame buffer, frame length, bytes sent) — which the next
    transmit call or received packet overwrites before using them (C04, C03). -/
theorem C11_failed_call_keeps_configuration (cap fuel : Nat) (a : Api) (hirq : a.isIrq = false) (hc : a ≠ .create)
    (h : Handle) :
    (Api.prog cap fuel a h).fwp false (fun failed rh => failed = true → h.cfgEq rh.2) :=
  cfg_api cap fuel a hirq hc h

/-- non-vacuity: the setters repaired by fe89473 are covered by the exact statement, and `cfgEq`
    distinguishes handles that differ in a configuration field -/
example : (Api.loraSetImplicitHeader (some (10, true, 1))).isPacketOp = false
    ∧ (Api.loraSetFrequencyHopping 5 (some [868000000]) 1).isPacketOp = false
    ∧ ¬ ({ implicitHeader := true, expected := 10 } : Handle).cfgEq ({} : Handle)
    ∧ ({ expected := 10 } : Handle).cfgEq ({} : Handle) := by
  refine ⟨rfl, rfl, ?_, rfl⟩
  intro h
  exact absurd (congrArg Handle.implicitHeader h) (by decide)

/-- **C11, cache.** (C01) After any admissible history with any set of failing transfers the cache holds only
    values the chip's active page would return. -/
theorem C11_cache_after_failures (c : SysCfg) (hc : c.cached = true) (s : Sys) (i : Inv s.world)
    (ops : List Op) (hadm : ∀ op ∈ ops, op.Admissible) : Inv (Sys.run c s ops).1.world :=
  run_inv c hc s ops hadm i

/-- non-vacuity: the receive callback is a node of the handler's program (with a callback
    registered, `rxCallback` started after a failure would violate the predicate), so the second
    clause does not hold for want of callbacks -/
example : ¬ (rxCallback ({ rxCb := true } : Handle)).fwp true (fun _ _ => True) := by
  intro h
  have h' : (true = true → ∀ d n, CbEvent.rx (([] : Mem).take 0) 0 ≠ CbEvent.rx d n) ∧ _ := h
  exact (h'.1 rfl _ _) rfl

end Sx
