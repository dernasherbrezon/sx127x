import Sx.Lemmas.ToolParser
import Sx.Lemmas.Wp
/-
  C20 — register dump and the debug_registers decoder.

  * the dump: `sx127x_dump_registers` is one raw burst read of 0x70 bytes from address 1 (no
    cache, no FIFO access), and what it returns is the chip's content of every register;
  * the tool's argument parser (model in Sx/Model/DebugTool.lean, compared with the real
    `at_util_string2hex` on generated strings under ASan): no argument string makes a store leave
    the allocation, and a dump printed in the README's format is read back value by value, the
    last one included;
  * `main` calls a decoder only with at least `toolMinValues` values, and every index the decoders
    use is below that (facts regenerated from debug_registers/main.c on every run).
  That the decoders print the right names for the values is decided by running the real tool on
  real dumps and comparing with what was configured (props.py, c20) — not by a theorem.
-/
namespace Sx.Tool

/-- **memory safety of the argument parser**: for every argument string, no store leaves the
    allocation -/
theorem parse_never_oob (s : List Char) : parse s ≠ .oob :=
  scan_no_oob _ s 0 false [] (by simp; omega)

theorem parse_render (bs : List UInt8) : parse (render bs) = .ok bs := by
  cases bs with
  | nil => simp [parse, render, scan]
  | cons b r =>
    unfold parse
    rw [scan_render _ (b :: r) [] (by simp) (by rw [count_render]; simp; omega)]
    simp

/-- `main` never continues after an out-of-bounds store, because there is none -/
theorem toolMain_never_ub (arg : List Char) : toolMain arg ≠ .ub := by
  unfold toolMain
  have := parse_never_oob arg
  cases h : parse arg with
  | invalid => simp
  | oob => exact absurd h this
  | ok regs => simp only; split <;> (try split) <;> simp

/-- the decoders are only called with every register they index present: obligation on the facts
    regenerated from debug_registers/main.c (all subscripts are literals, the largest is below the
    number of values `main` insists on) -/
theorem decoders_index_inside_the_dump : Gen.toolIndicesLiteral = true ∧ Gen.toolMaxIndex < Gen.toolMinValues := by
  decide

theorem toolMain_decodes_only_full_dumps (arg : List Char) (regs : List UInt8)
    (h : toolMain arg = .lora regs ∨ toolMain arg = .fsk regs) : Gen.toolMaxIndex < regs.length := by
  have hidx := decoders_index_inside_the_dump.2
  unfold toolMain at h
  cases hp : parse arg with
  | invalid => rw [hp] at h; simp at h
  | oob => rw [hp] at h; simp at h
  | ok r =>
    rw [hp] at h
    simp only at h
    by_cases hl : r.length < Gen.toolMinValues
    · rw [if_pos hl] at h; simp at h
    · rw [if_neg hl] at h
      have : r = regs := by
        rcases h with h | h <;> (split at h <;> first | (cases h; rfl) | (cases h))
      subst this
      omega

/-- **C20, tool.** A dump of all 0x71 registers printed as the README prescribes (`0x%02x`, comma
    separated) reaches the decoder of the modulation selected by bit 7 of RegOpMode, with every
    value as dumped — the last one included. -/
theorem C20_tool_reads_a_printed_dump (regs : List UInt8) (hlen : regs.length = 0x71) :
    toolMain (render regs) = (if regs.getD 1 0 &&& 0x80 = 0x80 then .lora regs else .fsk regs) := by
  unfold toolMain
  rw [parse_render]
  simp only
  have : ¬regs.length < Gen.toolMinValues := by rw [hlen]; decide
  rw [if_neg this]

end Sx.Tool

namespace Sx
open Sx.Model DM Mem Chip

/-- **C20, dump (shape).** `sx127x_dump_registers` is exactly one request: a raw (not cached)
    burst read of 0x70 bytes starting at address 1; its result is 0 followed by those bytes. -/
theorem C20_dump_is_one_raw_burst (h : Handle) :
    dumpRegisters h = .rawbread 0x01 0x70 (fun r => match r with
      | .ok data => .ret (.ok (0 :: data), h)
      | .error c => .ret (.error c, h)) := by
  unfold dumpRegisters
  show Prog.rawbread 1 (Gen.MAX_NUMBER_OF_REGISTERS - 1) _ = _
  congr 1
  funext r
  cases r <;> rfl

/-- **C20, dump (content).** Under plain execution the dump is 0 followed by the chip's content of
    every register 0x01..0x70 in the selected page, and the chip is left exactly as it was. -/
theorem C20_dump_is_the_chip (h : Handle) (c : Chip) :
    wp dumpRegisters h ⟨c, [], []⟩ (fun r h' s' =>
      r = .ok (0 :: (List.range 0x70).map (fun i => c.peek (1 + i))) ∧ h' = h ∧ s'.chip = c) := by
  unfold dumpRegisters
  rw [wp_bind, wp_rawbread]
  have : c.readN 1 (Gen.MAX_NUMBER_OF_REGISTERS - 1) = ((List.range 0x70).map (fun i => c.peek (1 + i)), c) :=
    readN_pure c 1 0x70 (by decide) (by decide)
  simp only [this, wp_pure]
  exact ⟨trivial, trivial, trivial⟩

end Sx
