import Sx.Lemmas.SafeAll
import Sx.Lemmas.Exec
import Sx.Lemmas.ShadowSize
import Sx.Lemmas.ShadowCbs
import Sx.Lemmas.LoopBound
import Sx.Props.C19
import Sx.Lemmas.CastFacts
import Sx.Props.C12
import Sx.Props.C14.Table
/-
  C08 — memory safety for all air data, chip states and buffer sizes.

  What is proved here, for **every** packet-buffer size `cap` (CONFIG_SX127X_MAX_PACKET_SIZE), every
  argument, every answer of chip and bus (any register content, any FIFO content, any over-the-air
  length byte, any transfer failing), every history and every schedule:

  * no API call and no handler invocation accesses `device->packet` outside `[0, cap)`, the
    shadow arrays outside their 0x71 entries (every request stays within the SPI contract of
    C19, and within it the four shadow-layer entry points stay inside the arrays:
    Sx/Lemmas/ShadowSize.lean), reads the caller's frequency list outside
    `[0, frequencies_length)`, dereferences a NULL list, divides by zero or shifts a negative
    value (`memBad` = every kind of undefined behaviour of the model except the two below);
  * the handle invariant `HInv` (buffer size; a registered list has `1 ≤ length ≤` its array;
    `received ≤` buffer size) and the size of the shadow arrays are preserved, also across
    application callbacks that call back into the API.

  * the length passed to the receive callback never exceeds the buffer capacity, and the bytes it
    announces are all inside the buffer (`CbLen`); that they are the bytes the chip stored *for
    that packet* is the content of C03 (`rx_invocation`) and C05 (`C05_rx_done`), which describe
    the delivered data exactly.

  The float→integer conversions (`castRange`, the class `memBad` leaves out) are proved defined
  for every input in the second half of this file.  Of the two loops the model gives fuel, the byte-wise
  FIFO drain is bounded by the packet buffer (`C08_handler_loop_bounded`); the calibration poll is
  bounded by the chip only, and that it terminates (`fuel`) is *not* proved here and rests on the
  sanitizer builds (ASan/UBSan, five buffer sizes) of the correspondence check.
-/
namespace Sx
open Sx.Model DM

/-- **C08 (program level).** For every buffer size, every API call (other than `create`) whose
    frequency list is as long as it says (`ListsFit`), started from a handle satisfying the
    invariant, whatever chip and bus answer: none of the undefined behaviours of `memBad`, every
    receive callback within the buffer (`CbLen`), and the handle invariant kept. -/
theorem C08_api_memory_safe (cap fuel : Nat) (a : Api) (hc : a.isCreate = false) (hl : a.ListsFit)
    (h : Handle) (hh : HInv cap h) : (Api.prog cap fuel a h).Safe memBad (CbLen cap) (HInv cap) :=
  (s_api fuel a hc hl).s h hh

/-- `sx127x_create` from any memory content -/
theorem C08_create_memory_safe (cap fuel : Nat) (h : Handle) :
    (Api.prog cap fuel .create h).Safe memBad (CbLen cap) (HInv cap) := by
  unfold Api.prog
  show ((Model.create cap h).bind _).Safe memBad (CbLen cap) (HInv cap)
  apply Prog.Safe_bind (s_create h)
  intro ⟨r, h'⟩ hi
  cases r <;> exact hi

/-- **C08, bounded execution of the interrupt handler.** Its only loop — the byte-wise drain of
    the FIFO — is bounded by the packet buffer and not by the chip: for every buffer size up to
    65535 bytes (the byte counter is a `uint16_t`), every handle with a packet buffer of that size
    and every answer of chip and bus that `Prog.Safe` admits (failures, and values of the size
    asked for), a FIFO that never reports "empty" included, one invocation with more loop fuel than the buffer
    has bytes never exhausts it (`FuelBad` = the model's loop ran out of fuel).  The only other
    loop of the driver, the calibration poll of `sx127x_fsk_ook_rx_calibrate`, waits for the chip
    (`ImageCalRunning`) and is bounded by the chip alone. -/
theorem C08_handler_loop_bounded (cap fuel : Nat) (hc16 : cap ≤ 65535) (hf : cap < fuel) (h : Handle)
    (hh : h.packet.length = cap) : (Api.prog cap fuel .irq h).Safe FuelBad (fun _ => True) (LI cap) := by
  unfold Api.prog
  exact (SafeI_bind (SafeI_attempt (l_irq hc16 fuel hf)) (fun _ => SafeI_pure _)).s h hh

/-- non-vacuity: with no fuel at all the loop does run out (the bound is needed), and the
    interpreter's fuel exceeds every documented buffer size -/
example : ¬ (drainLoop 0 ({ packet := [0] } : Handle)).Safe FuelBad (fun _ => True) (LI 1) := fun h => h rfl
example : (2047 : Nat) < execFuel := by decide

/-- every callback logged for the current operation satisfies `G` -/
def CbsOk (G : CbEvent → Prop) (w : World) : Prop := ∀ r ∈ w.cbs, G r.ev

theorem CbsOk_of_eq {G : CbEvent → Prop} {w w' : World} (e : w'.cbs = w.cbs) (h : CbsOk G w) : CbsOk G w' := by
  unfold CbsOk; rw [e]; exact h

/-- no excluded undefined behaviour; handle invariant and shadow-array size are kept; every
    callback made so far satisfies `G` -/
def SafeOut {β : Type} (bad : UB → Prop) (G : CbEvent → Prop) (P : β → Prop) : Outcome β → Prop
  | .done b w' => P b ∧ SzOk w' ∧ CbsOk G w'
  | .ub u w' => ¬bad u ∧ SzOk w'

/-- what an application reaction may do: given a callback the driver was entitled to make, it
    leaves a handle satisfying `I`, keeps the shadow arrays' size, logs the callback, and runs into
    no excluded undefined behaviour -/
def CbOk (bad : UB → Prop) (G : CbEvent → Prop) (I : Handle → Prop) (onCb : CbEvent → Handle → World → Outcome Handle) : Prop :=
  ∀ e h w, G e → I h → SzOk w → CbsOk G w → SafeOut bad G I (onCb e h w)

/-- **a safe program within the SPI contract executes safely**, in either build, from any world
    whose shadow arrays have their size (any chip, cache content, schedule of environment events,
    set of failing transfers): no excluded undefined behaviour — accesses outside the shadow
    arrays included —, the handle invariant and the array size are kept, and every callback the
    application sees satisfies `G` -/
theorem execG_safe {α : Type} (bad : UB → Prop) (G : CbEvent → Prop) (I : Handle → Prop) (cached : Bool)
    (onCb : CbEvent → Handle → World → Outcome Handle) (hcb : CbOk bad G I onCb)
    (p : Prog (Except Code α × Handle)) (hp : p.Safe bad G I) (hall : p.All ContractReq) (w : World) (hs : SzOk w)
    (hg : CbsOk G w) :
    SafeOut bad G (fun rh => I rh.2) (execG cached onCb p w) := by
  induction p using Prog.req_induction generalizing w with
  | ret a => exact ⟨hp, hs, hg⟩
  | ub u => exact ⟨hp, hs⟩
  | req q k ih =>
    obtain ⟨r, w', he, hs', hr⟩ := step_sz (cached := cached) hs q (Prog.All_req.1 hall).1
    rw [execG_req, he]
    exact ih r (Prog.Safe_req.1 hp r hr) ((Prog.All_req.1 hall).2 r) w' hs' (CbsOk_of_eq (Shadow.step_cbs he) hg)
  | callback e h k ih =>
    simp only [execG]
    have hc := hcb e h w hp.1.1 hp.1.2 hs hg
    cases ho : onCb e h w with
    | done h' w' => rw [ho] at hc; exact ih h' (hp.2 h' hc.1) (hall h') w' hc.2.1 hc.2.2
    | ub u w' => rw [ho] at hc; exact hc

theorem api_safe (cap fuel : Nat) (a : Api) (hl : a.ListsFit) (h : Handle)
    (hh : a.isCreate = false → HInv cap h) : (Api.prog cap fuel a h).Safe memBad (CbLen cap) (HInv cap) := by
  cases hc : a.isCreate with
  | false => exact C08_api_memory_safe cap fuel a hc hl h (hh hc)
  | true =>
    have : a = .create := by cases a <;> simp_all [Api.isCreate]
    subst this
    exact C08_create_memory_safe cap fuel h

def Op.Fits : Op → Prop
  | .env _ => True
  | .api a _ _ => a.ListsFit

/-- the calls the application makes inside callbacks hand over lists as long as they say -/
def SysCfg.Fits (c : SysCfg) : Prop :=
  (∀ a, c.onRx = some a → a.ListsFit) ∧ (∀ a, c.onTx = some a → a.ListsFit) ∧ (∀ a, c.onCad = some a → a.ListsFit)

theorem CbsOk.log {G : CbEvent → Prop} {w : World} (hc : CbsOk G w) {r : CbRec} (hr : G r.ev) :
    CbsOk G { w with cbs := r :: w.cbs } := by
  intro r' hr'
  rcases List.mem_cons.mp hr' with e | e
  · rw [e]; exact hr
  · exact hc r' e

theorem logCb_ok (bad : UB → Prop) (G : CbEvent → Prop) (I : Handle → Prop) : CbOk bad G I logCb :=
  fun _ _ _ hg hi hs hc => ⟨hi, hs, hc.log hg⟩

theorem onCb_ok (c : SysCfg) (hc : c.Fits) (hv : c.Valid) : CbOk memBad (CbLen c.cap) (HInv c.cap) c.toCfg.onCb := by
  intro e h w hge hh hsz hcbs
  unfold Cfg.onCb
  cases hr : c.toCfg.reactionFor e with
  | none => exact logCb_ok _ _ _ e h w hge hh hsz hcbs
  | some re =>
    obtain ⟨api, ho, hrun⟩ := SysCfg.reactionFor_some hr
    have hfit : api.ListsFit := ho.elim (hc.1 api) fun ho => ho.elim (hc.2.1 api) (hc.2.2 api)
    have hsafe : (re.run h).Safe memBad (CbLen c.cap) (HInv c.cap) := by
      rw [hrun]; exact api_safe c.cap c.fuel api hfit h fun _ => hh
    have := execG_safe memBad (CbLen c.cap) (HInv c.cap) c.toCfg.cached logCb (logCb_ok _ _ _) (re.run h) hsafe
      (hv.reaction hr h) w hsz hcbs
    unfold exec0
    dsimp only
    cases hx : execG c.toCfg.cached logCb (re.run h) w with
    | done a w' => rw [hx] at this; exact ⟨this.1, this.2.1, this.2.2.log hge⟩
    | ub u w' => rw [hx] at this; exact this

/-- the handle of a system, if there is one, satisfies the invariant, and the shadow arrays have
    their size -/
def SysInv (cap : Nat) (s : Sys) : Prop := (∀ h, s.handle = some h → HInv cap h) ∧ SzOk s.world

theorem fresh_sz : Cache.fresh.size = 0x71 := Cache.fresh_wf.hs

/-- what an observation may show: no excluded undefined behaviour, and every receive callback
    with a length within the packet buffer and all of its bytes inside it -/
def ObsOk (cap : Nat) : Obs → Prop
  | .ub u => ¬memBad u
  | .ret _ cbs _ => ∀ r ∈ cbs, CbLen cap r.ev
  | _ => True

/-- **C08 (one operation).** In either build (cache on/off), for every packet-buffer size, any
    chip content, any environment schedule, any set of failing transfers, any application
    reaction inside the callbacks, all calls with arguments within the documented C types
    (`Valid`) and frequency lists as long as they say (`Fits`): the operation has none of the excluded undefined behaviours
    — every kind the model knows except an out-of-range float conversion and exhausted loop
    fuel; accesses outside the shadow arrays included —, every receive callback it makes has a
    length within the packet buffer, and handle and shadow arrays keep their invariants. -/
theorem C08_step (c : SysCfg) (hc : c.Fits) (hv : c.Valid) (s : Sys) (hs : SysInv c.cap s) (op : Op)
    (hop : op.Fits) (hov : op.Valid) :
    SysInv c.cap (s.step c op).1 ∧ ObsOk c.cap (s.step c op).2 := by
  cases op with
  | env e => exact ⟨⟨hs.1, hs.2⟩, trivial⟩
  | api a sched faults =>
    rw [Sys.step_api]
    split
    · exact ⟨hs, trivial⟩
    · rename_i hgate
      have hh : a.isCreate = false → HInv c.cap (s.handle.getD {}) := by
        intro hcr
        cases hsh : s.handle with
        | none => exfalso; apply hgate; simp [hsh, hcr]
        | some h => exact hs.1 h hsh
      have hsz0 : SzOk (s.start a sched faults) := by
        show (if a.isCreate = true then Cache.fresh else s.world.cache).size = 0x71
        split
        · exact fresh_sz
        · exact hs.2
      have := execG_safe memBad (CbLen c.cap) (HInv c.cap) c.toCfg.cached c.toCfg.onCb (onCb_ok c hc hv) _
        (api_safe c.cap c.fuel a hop (s.handle.getD {}) hh) ((contract_api c.cap c.fuel a hov).all _) _ hsz0
        (fun _ hr => by cases hr)
      unfold exec
      generalize execG c.toCfg.cached c.toCfg.onCb (Api.prog c.cap c.fuel a (s.handle.getD {})) _ = out at this
      cases out with
      | ub u w => exact ⟨⟨hs.1, this.2⟩, this.1⟩
      | done rh w => exact ⟨⟨fun h' e => by cases e; exact this.1, this.2.1⟩, fun r hr => this.2.2 r (List.mem_reverse.mp hr)⟩

/-- **C08.** The same for every history. -/
theorem C08_memory_safe (c : SysCfg) (hc : c.Fits) (hv : c.Valid) (s : Sys) (hs : SysInv c.cap s) (ops : List Op)
    (hops : ∀ op ∈ ops, op.Fits ∧ op.Valid) :
    SysInv c.cap (Sys.run c s ops).1 ∧ ∀ o ∈ (Sys.run c s ops).2, ObsOk c.cap o := by
  induction ops generalizing s with
  | nil => exact ⟨hs, fun o ho => by cases ho⟩
  | cons op ops ih =>
    have hopv := hops op (List.mem_cons_self ..)
    have h1 := C08_step c hc hv s hs op hopv.1 hopv.2
    have h2 := ih (s.step c op).1 h1.1 (fun o ho => hops o (List.mem_cons_of_mem _ ho))
    simp only [Sys.run]
    refine ⟨h2.1, fun o ho => ?_⟩
    rcases List.mem_cons.mp ho with e | e
    · rw [e]; exact h1.2
    · exact h2.2 o e

/-- **C08, callback length.** In every history, every receive callback the application sees has a
    length that does not exceed the packet buffer, and the `data` it is handed holds exactly that
    many bytes of the buffer. -/
theorem C08_callback_length (c : SysCfg) (hc : c.Fits) (hv : c.Valid) (s : Sys) (hs : SysInv c.cap s) (ops : List Op)
    (hops : ∀ op ∈ ops, op.Fits ∧ op.Valid) (r : Except Code Out) (cbs : List CbRec) (bus : List BusEv)
    (ho : Obs.ret r cbs bus ∈ (Sys.run c s ops).2) (rec : CbRec) (hrec : rec ∈ cbs) (d : List UInt8) (n : Nat)
    (he : rec.ev = .rx d n) : n ≤ c.cap ∧ d.length = n := by
  have := (C08_memory_safe c hc hv s hs ops hops).2 _ ho rec hrec
  rw [he] at this
  exact this

/-- the fresh system (no handle yet, shadow arrays as `sx127x_create` leaves them) satisfies the
    invariant for every buffer size -/
theorem sysInv_fresh (cap : Nat) (chip : Chip) : SysInv cap { world := { chip := chip }, handle := none } := by
  refine And.intro (fun h e => ?_) fresh_sz
  cases e

/-- non-vacuity: `CbLen` refuses a length beyond the buffer and admits an honest one, and `memBad`
    holds of every class of undefined behaviour other than the two left out -/
example : ¬CbLen 16 (.rx (List.replicate 16 0) 200) ∧ CbLen 16 (.rx [1, 2, 3] 3) ∧ CbLen 16 .tx := by
  refine ⟨fun h => absurd h.1 (by decide), ⟨by decide, rfl⟩, trivial⟩

example : memBad .oobPacket ∧ memBad .oobShadow ∧ memBad .oobCaller ∧ memBad .nullDeref ∧ memBad .divZero ∧ memBad .shiftNeg := by decide

/-! ## Float → integer conversions (the class `castRange` that `C08_memory_safe` leaves out)

    All eight conversion sites of the driver are proved defined for **every** input here (carrier
    encode and decode, ppm correction, bit rate, deviation, packet RSSI refinement, frequency-error
    decode, beacon timers), each as a `Prog.Safe` statement for the class `castRange`: every answer
    of chip and bus, a register read of `n` bytes answering any value below `2^(8n)`. -/

def castBad (u : UB) : Prop := u = .castRange

instance (u : UB) : Decidable (castBad u) := by unfold castBad; exact inferInstance

abbrev CS (x : DM α) : Prop := DM.SafeI castBad (fun _ => True) (fun _ => True) x

theorem cs_ub (u : UB) (h : u ≠ .castRange) : CS (DM.ub u : DM α) := DM.SafeI_ub u h

/-- **C08, `sx127x_set_frequency`.** For every `uint64_t` argument, handle and answer of the bus:
    the conversion `(uint64_t)((frequency << 19) / 32e6f)` is defined, the call never reaches
    undefined behaviour. -/
theorem C08_cast_set_frequency (f : UInt64) :
    (∃ d, Model.frfOf f = some d) ∧ DM.SafeI castBad (fun _ => True) (fun _ => True) (Model.setFrequency f) := by
  obtain ⟨d, hd⟩ := cast_set_frequency f
  refine ⟨⟨d, hd⟩, ?_⟩
  unfold Model.setFrequency
  rw [hd]
  exact DM.SafeI_swrite _ _

/-- **C08, `sx127x_get_frequency`.** For every content of the frequency registers:
    `(uint64_t)(raw * 32e6f)` is defined. -/
theorem C08_cast_get_frequency :
    (∀ raw : UInt32, ∃ v, Model.freqOfRaw raw = some v) ∧
    DM.SafeI castBad (fun _ => True) (fun _ => True) Model.getFrequency := by
  refine ⟨cast_get_frequency, ?_⟩
  unfold Model.getFrequency
  apply DM.SafeI_bind (DM.SafeI_sread _ _)
  intro raw
  obtain ⟨v, hv⟩ := cast_get_frequency raw
  rw [hv]
  exact DM.SafeI_pure _

/-- **C08, `sx127x_lora_set_ppm_offset`.** For every frequency error (any `int32_t`, in fact any
    integer), every content of the frequency registers (zero included: the quotient is then an
    infinity or NaN and is refused by the range check), every handle and answer: the conversion to
    `int8_t` is only reached with a value in range. -/
theorem C08_cast_ppm (err : Int) :
    DM.SafeI castBad (fun _ => True) (fun _ => True) (Model.loraSetPpmOffset err) := by
  unfold Model.loraSetPpmOffset
  apply DM.SafeI_bind (safe_checkModulation _); intro _
  apply DM.SafeI_bind C08_cast_get_frequency.2
  intro frequency
  dsimp only
  split
  · exact DM.SafeI_fail _
  · rename_i hg
    have hg' : (F.gt (Model.ppmFloat err frequency) (.fin (-129)) && F.lt (Model.ppmFloat err frequency) (.fin 128)) = true := by
      simpa using hg
    have h12 := Bool.and_eq_true_iff.mp hg'
    obtain ⟨v, hv⟩ := cast_ppm _ h12.1 h12.2
    rw [hv]
    exact DM.SafeI_swrite _ _

section casts

theorem le_fin_of (x : F) (a : Rat) (h : F.le (.fin a) x = true) (b : Rat) (h2 : F.le x (.fin b) = true) :
    ∃ q, x = .fin q ∧ a ≤ q ∧ q ≤ b := by
  cases x with
  | nan => simp [F.le] at h
  | inf s => cases s <;> simp [F.le] at h h2
  | fin q => simp only [F.le, decide_eq_true_eq] at h h2; exact ⟨q, rfl, h, h2⟩

/-- **C08, `sx127x_fsk_ook_set_bitrate`.** For every binary32 argument (NaN, infinities, negative
    and out-of-range values included — they are refused by the range check), every handle and every
    answer: the conversions `(uint32_t)(32e6 * 16 / bitrate)` and `(uint16_t)(32e6f / bitrate)` are
    only reached with values in range. -/
theorem C08_cast_bitrate (bits : UInt32) :
    SafeI castBad (fun _ => True) (fun _ => True) (fskOokSetBitrate (F.ofBits32 bits)) := by
  unfold fskOokSetBitrate
  apply SafeI_bind safe_checkFskOok; intro _
  apply SafeI_bind SafeI_getH; intro h
  dsimp only
  split
  · split
    · exact SafeI_fail _
    · rename_i hr
      have hr' : F.le (F.fin 1200) (F.ofBits32 bits) = true ∧ F.le (F.ofBits32 bits) (F.fin 300000) = true := by
        simpa using hr
      obtain ⟨q, hq, h1, h2⟩ := le_fin_of _ _ hr'.1 _ hr'.2
      obtain ⟨v, hv, _⟩ := C12_fsk_bitrate_bits bits q hq h1 h2
      rw [hv]
      exact SafeI_bind (SafeI_swrite _ _) (fun _ => SafeI_swrite _ _)
  · split
    · split
      · exact SafeI_fail _
      · rename_i hr
        have hr' : F.le (F.fin 1200) (F.ofBits32 bits) = true ∧ F.le (F.ofBits32 bits) (F.fin 25000) = true := by
          simpa using hr
        obtain ⟨q, hq, h1, h2⟩ := le_fin_of _ _ hr'.1 _ hr'.2
        rw [hq]
        obtain ⟨v, hv, _⟩ := C12_ook_bitrate q h1 h2
        rw [hv]
        exact SafeI_bind (SafeI_swrite _ _) (fun _ => SafeI_swrite _ _)
    · exact SafeI_fail _

/-- **C08, `sx127x_fsk_set_fdev`.** Likewise for `(uint16_t)(fdev / FSTEP)`. -/
theorem C08_cast_fdev (bits : UInt32) :
    SafeI castBad (fun _ => True) (fun _ => True) (fskSetFdev (F.ofBits32 bits)) := by
  unfold fskSetFdev
  apply SafeI_bind (safe_checkModulation _); intro _
  split
  · exact SafeI_fail _
  · rename_i hr
    have hr' : F.le (F.fin 600) (F.ofBits32 bits) = true ∧ F.le (F.ofBits32 bits) (F.fin 200000) = true := by
      simpa using hr
    obtain ⟨q, hq, h1, h2⟩ := le_fin_of _ _ hr'.1 _ hr'.2
    rw [hq]
    obtain ⟨v, hv, _⟩ := C12_fdev q h1 h2
    rw [hv]
    exact SafeI_swrite _ _

theorem snr_post (h : Handle) :
    (loraRxGetPacketSnr h).fwp false (fun _ rh => ∀ snr, rh.1 = .ok snr → ∃ b : UInt8, snr = snrOf b) := by
  unfold loraRxGetPacketSnr checkModulation
  simp only [fwp_bind', fwp_getH, fwp_rread, fwp_pure, fwp_ite, fwp_fail]
  split
  · intro s e; cases e
  · refine ⟨fun v s e => ⟨v, ?_⟩, fun c s e => by cases e⟩
    cases e; rfl

theorem s_snr_cast : SafeI castBad (fun _ => True) (fun _ => True) loraRxGetPacketSnr := by
  unfold loraRxGetPacketSnr
  apply SafeI_bind (safe_checkModulation _); intro _
  exact SafeI_bind (SafeI_rread _) (fun _ => SafeI_pure _)

/-- **C08, `sx127x_rx_get_packet_rssi`.** For every RegPktRssiValue, RegPktSnrValue and carrier
    (either port offset), every handle and answer: the refinement `(int16_t)(rssi + snr)` is
    defined. -/
theorem C08_cast_packet_rssi : SafeI castBad (fun _ => True) (fun _ => True) rxGetPacketRssi := by
  unfold rxGetPacketRssi
  apply SafeI_bind SafeI_getH; intro h
  split
  · apply SafeI_bind (SafeI_rread _); intro value
    apply SafeI_bind C08_cast_get_frequency.2; intro frequency
    dsimp only
    refine SafeI_attempt_bind_post (fun r _ => ∀ snr, r = .ok snr → ∃ b : UInt8, snr = snrOf b) s_snr_cast snr_post ?_
    intro r h' _ hq
    cases r with
    | error c => exact trivial
    | ok snr =>
      obtain ⟨b, hb⟩ := hq snr rfl
      subst hb
      dsimp only
      split
      · have hoff : ∀ off : Int, (off = Gen.RSSI_OFFSET_HF_PORT ∨ off = Gen.RSSI_OFFSET_LF_PORT) →
            ((match rssiRefine ((value.toNat : Int) - off) (snrOf b) with
              | some v => (pure v : DM Int)
              | none => DM.ub .castRange) h').Safe castBad (fun _ => True) (fun _ => True) := by
          intro off ho
          rw [C12_packet_rssi value b off ho]
          exact trivial
        split
        · exact hoff _ (Or.inr rfl)
        · exact hoff _ (Or.inl rfl)
      · exact trivial
  · split
    · split
      · exact SafeI_fail _
      · exact SafeI_bind (SafeI_modH _ (fun _ _ => trivial)) (fun _ => SafeI_pure _)
    · exact SafeI_fail _

/-! the frequency-error decoders: the register read hands a value below `2^(8n)` to the conversion (`SafeI_sread_bind`) -/

theorem lora_freq_error_some (raw : UInt32) (h : raw.toNat < 2 ^ 24) (bw : Nat) (hbw : LoraBw bw) :
    ∃ v, loraFreqError raw bw = some v := by
  unfold loraFreqError
  simp only
  rw [factor_value, f32_500000, ofNat32 bw (by have := hbw.bounds; omega)]
  -- the magnitude, whichever branch computed it, is below 2^24
  have hm : (if raw &&& 0x80000 ≠ 0 then (~~~raw + 1) &&& 0xFFFFF else raw).toNat < 2 ^ 24 := by
    split
    · have : ((~~~raw + 1) &&& 0xFFFFF).toNat ≤ 0xFFFFF := by
        rw [UInt32.toNat_and]; exact Nat.and_le_right
      omega
    · exact h
  obtain ⟨v, hv, _⟩ := lora_error_val (σ := if raw &&& 0x80000 ≠ 0 then -1 else 1) (by split <;> simp) _ hm bw hbw
  exact ⟨v, hv⟩

theorem ite_some_imp {α : Type} {P : α → Prop} {c : Prop} [Decidable c] {v b : α} {r : Option α} (hv : P v)
    (hr : r = some b → P b) : (if c then some v else r) = some b → P b := by
  split
  · intro e; cases e; exact hv
  · exact hr

theorem bw_of_code (c : UInt8) (b : Nat) (h : bandwidthOfCode c = some b) : LoraBw b := by
  unfold bandwidthOfCode at h
  unfold LoraBw
  revert h
  -- each of the ten branches returns a listed value, the default refuses
  iterate 10 (apply ite_some_imp; decide)
  intro h; cases h

theorem bw_post (h : Handle) :
    (loraGetBandwidth h).fwp false (fun _ rh => ∀ b, rh.1 = .ok b → LoraBw b) := by
  unfold loraGetBandwidth checkModulation
  simp only [fwp_bind', fwp_getH, fwp_rread, fwp_pure, fwp_ite, fwp_fail]
  split
  · intro b e; cases e
  · refine ⟨fun v => ?_, fun c b e => by cases e⟩
    cases hb : bandwidthOfCode (v >>> 4) with
    | none => simp only [fwp_fail]; intro b e; cases e
    | some b0 =>
      simp only [fwp_pure]
      intro b e
      have : b = b0 := by cases e; rfl
      rw [this]; exact bw_of_code _ _ hb

theorem cs_getBw : SafeI castBad (fun _ => True) (fun _ => True) loraGetBandwidth := by
  unfold loraGetBandwidth
  apply SafeI_bind (safe_checkModulation _); intro _
  apply SafeI_bind (SafeI_rread _); intro v
  split
  · exact SafeI_pure _
  · exact SafeI_fail _

/-- **C08, `sx127x_rx_get_frequency_error`.** For every content of the frequency-error registers
    (three bytes in LoRa, two in FSK/OOK - the read hands a value below `2^24` resp. `2^16` to the
    conversion), every bandwidth the chip can report, every handle and answer: the conversions to
    `int32_t` are defined. -/
theorem C08_cast_frequency_error : SafeI castBad (fun _ => True) (fun _ => True) rxGetFrequencyError := by
  unfold rxGetFrequencyError
  apply SafeI_getH_bind; intro h _
  apply SafeI_ite
  · intro _
    apply SafeI_sread_bind; intro raw hraw
    refine SafeI_bind_post (fun r _ => ∀ b, r = .ok b → LoraBw b) cs_getBw bw_post ?_
    intro b h' _ hq
    obtain ⟨v, hv⟩ := lora_freq_error_some raw (by simpa using hraw) b (hq b rfl)
    rw [hv]
    exact trivial
  · intro _
    apply SafeI_ite
    · intro _
      apply SafeI_sread_bind; intro raw hraw
      obtain ⟨v, hv, _⟩ := C12_fsk_frequency_error raw (by simpa using hraw)
      rw [hv]
      exact SafeI_pure _
    · intro _; exact SafeI_fail _

end casts

section beacon

attribute [local irreducible] DM.rread DM.sread DM.swrite DM.bwrite DM.bread DM.rawbread DM.cb DM.modH DM.setH

theorem cs_packetStore (i : Nat) (v : UInt8) : CS (packetStore i v) := by
  unfold packetStore
  apply SafeI_getH_bind; intro h _
  apply SafeI_ite
  · intro _; exact SafeI_setH _ trivial
  · intro _; exact cs_ub _ (by decide)

theorem cs_packetCopy (off : Nat) (d : List UInt8) : CS (packetCopy off d) := by
  unfold packetCopy
  apply SafeI_getH_bind; intro h _
  apply SafeI_ite
  · intro _; exact SafeI_setH _ trivial
  · intro _; exact cs_ub _ (by decide)

theorem cs_withRemaining (n : UInt16) : CS (fskOokTxWithRemaining n) := by
  unfold fskOokTxWithRemaining
  dsimp only
  apply SafeI_bind (SafeI_modH _ (fun _ _ => trivial)); intro _
  apply SafeI_getH_bind; intro h _
  apply SafeI_ite
  · intro _; exact SafeI_bwrite _ _
  · intro _
    apply SafeI_bind (cs_ub _ (by decide)); intro _
    exact SafeI_bwrite _ _

theorem cs_txSet (data : List UInt8) : CS (fskOokTxSetForTransmission data) := by
  unfold fskOokTxSetForTransmission
  apply SafeI_bind safe_checkFskOok; intro _
  apply SafeI_getH_bind; intro h _
  dsimp only
  apply SafeI_ite
  · intro _; exact SafeI_fail _
  · intro _
    apply SafeI_ite
    · intro _; exact SafeI_fail _
    · intro _
      apply SafeI_ite
      · intro _; exact SafeI_fail _
      · intro _
        apply SafeI_ite
        · intro _
          apply SafeI_bind (cs_packetStore _ _); intro _
          apply SafeI_bind (cs_packetCopy _ _); intro _
          exact cs_withRemaining _
        · intro _
          apply SafeI_bind (cs_packetCopy _ _); intro _
          exact cs_withRemaining _

/-- **the timer selection of the beacon for every `uint32_t` interval** - zero, the documented
    range 1..133620 ms (the table of C14) and everything above it (every intermediate value is a
    positive float and `sx127x_timer_coefficient` saturates): no float is converted out of range -/
theorem C08_beacon_timers_defined (n : Nat) (h2 : n < 2 ^ 32) : ∃ t, beaconTimers n = some t := by
  rcases Nat.lt_or_ge 133620 n with h | h
  · exact beacon_some_large n h h2
  · rcases Nat.eq_zero_or_pos n with h0 | h0
    · subst h0
      have : (beaconTimers 0).isSome = true := by decide +kernel
      exact Option.isSome_iff_exists.mp this
    · have hok := beacon_table n h0 h
      unfold beaconOk at hok
      cases hb : beaconTimers n with
      | none => rw [hb] at hok; cases hok
      | some t => exact ⟨t, rfl⟩

/-- **C08, `sx127x_fsk_ook_tx_start_beacon`.** For every payload, every `uint32_t` interval
    (outside the documented range too), every handle and answer: the call never reaches a
    float conversion out of range. -/
theorem C08_cast_beacon (data : List UInt8) (iv : Nat) (hiv : iv < 2 ^ 32) :
    SafeI castBad (fun _ => True) (fun _ => True) (fskOokTxStartBeacon data iv) := by
  obtain ⟨⟨c1, c2, resol⟩, ht⟩ := C08_beacon_timers_defined iv hiv
  unfold fskOokTxStartBeacon
  rw [ht]
  apply SafeI_bind safe_checkFskOok; intro _
  apply SafeI_getH_bind; intro h _
  apply SafeI_ite
  · intro _; exact SafeI_fail _
  · intro _
    apply SafeI_ite
    · intro _; exact SafeI_fail _
    · intro _
      dsimp only
      apply SafeI_bind (SafeI_swrite _ _); intro _
      apply SafeI_bind (SafeI_swrite _ _); intro _
      apply SafeI_bind (SafeI_swrite _ _); intro _
      apply SafeI_bind (SafeI_swrite _ _); intro _
      apply SafeI_bind (SafeI_swrite _ _); intro _
      apply SafeI_bind (cs_txSet data); intro _
      apply SafeI_bind (safe_appendRegister _ _ _); intro _
      exact SafeI_swrite _ _

end beacon

end Sx
