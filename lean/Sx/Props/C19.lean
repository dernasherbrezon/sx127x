import Sx.Lemmas.Sys
import Sx.Lemmas.ContractAll
import Sx.Lemmas.Backend
/-
  C19 (driver side) — every SPI request the driver issues is valid for the documented SPI
  interface: register reads and writes carry 1 to 4 bytes, buffer transfers at most 2047 bytes,
  and every transfer stays inside the register map 0x00..0x70.

  `contract_api` (Sx/Lemmas/ContractAll.lean) shows it for the program tree of every API
  function; the theorems here carry it to the bus: every transfer any history puts on the bus —
  with or without the register cache, whatever the chip answers, with any schedule of
  environment events and any failing transfers — satisfies `BusOk`.

  The backend half of C19 (Linux spidev / ESP-IDF framing) is the second part of the file:
  theorems about the model of the two bundled backends (`Sx/Model/Backend.lean`).  That this
  model is what the C of the backends does is the backend correspondence check (see DESIGN.md),
  not a theorem.
-/
namespace Sx

/-- the documented SPI contract, per bus transfer -/
def BusOk : BusEv → Prop
  | .r reg n _ => 1 ≤ n ∧ n ≤ 4 ∧ reg ≤ 0x70 ∧ reg + n ≤ 0x71
  | .w reg d _ => 1 ≤ d.length ∧ d.length ≤ 4 ∧ reg ≤ 0x70 ∧ reg + d.length ≤ 0x71
  | .rb reg n _ => n ≤ 2047 ∧ (reg = 0 ∨ reg + n ≤ 0x71)
  | .wb reg d _ => d.length ≤ 2047 ∧ (reg = 0 ∨ reg + d.length ≤ 0x71)

def BusAllOk (w : World) : Prop := ∀ ev ∈ w.bus, BusOk ev

theorem BusAllOk.cons {β : Type} {w w' : World} (j : BusAllOk w) {ev : β → BusEv} (hb : ∃ r, w'.bus = ev r :: w.bus)
    (h : ∀ r, BusOk (ev r)) : BusAllOk w' := by
  obtain ⟨r, hb⟩ := hb
  intro x hx
  rw [hb] at hx
  rcases List.mem_cons.1 hx with rfl | hx
  · exact h r
  · exact j x hx

theorem step_allOk {cached : Bool} (q : Req) (hq : ContractReq q) (w : World) (j : BusAllOk w) :
    (Shadow.step cached w q).Holds BusAllOk := by
  cases q with
  | sread reg n =>
    have hb : BusAllOk (w.busRead reg n).2 :=
      j.cons (busRead_bus ..) fun _ => ⟨hq.1, hq.2.1, by have := hq.2.2.2; have := hq.1; omega, hq.2.2.2⟩
    exact Shadow.sread_cases (.inr trivial) (fun _ _ _ => j) hb fun _ _ _ _ _ h => by rw [h] at hb; exact hb
  | rread reg =>
    have hq : reg ≤ 0x70 := hq
    have hb : BusAllOk (w.busRead reg 1).2 := j.cons (busRead_bus ..) fun _ => ⟨by decide, by decide, hq, by omega⟩
    exact Shadow.rread_cases (.inr trivial) (fun _ _ _ => j) hb fun _ _ _ _ _ h => by rw [h] at hb; exact hb
  | swrite reg d =>
    have hb : BusAllOk (w.busWrite reg d).2 :=
      j.cons (busWrite_bus ..) fun _ => ⟨hq.1, hq.2.1, by have := hq.2.2.1; have := hq.1; omega, hq.2.2.1⟩
    exact Shadow.swrite_cases (.inr trivial) (fun _ => hb) fun _ _ _ h => by rw [h] at hb; exact hb
  | bwrite reg d =>
    have hb : BusAllOk (w.busWriteBuf reg d).2 := j.cons (busWriteBuf_bus ..) fun _ => ⟨hq.1, hq.2.imp_right And.right⟩
    exact Shadow.bwrite_cases (.inr trivial) (fun _ => hb) fun _ _ _ _ h => by rw [h] at hb; exact hb
  | bread reg n => exact j.cons (busReadBuf_bus ..) fun _ => ⟨hq.1, hq.2.imp_right And.right⟩
  | rawbread reg n => exact j.cons (busReadBuf_bus ..) fun _ => ⟨hq.1, hq.2.imp_right And.right⟩

theorem execG_allOk (cached : Bool) (onCb : CbEvent → Handle → World → Outcome Handle)
    (hcb : ∀ e h w, BusAllOk w → BusAllOk (onCb e h w).world)
    (p : Prog α) (hp : p.All ContractReq) (w : World) (j : BusAllOk w) : BusAllOk (execG cached onCb p w).world :=
  execG_preserves step_allOk hcb p hp w j

/-- the calls of a history and of the application's callbacks take arguments within the
    documented C types and the register map -/
def Op.Valid : Op → Prop
  | .env _ => True
  | .api a _ _ => a.Valid

def SysCfg.Valid (c : SysCfg) : Prop :=
  (∀ a, c.onRx = some a → a.Valid) ∧ (∀ a, c.onTx = some a → a.Valid) ∧ (∀ a, c.onCad = some a → a.Valid)

theorem SysCfg.Valid.reaction {c : SysCfg} (hc : c.Valid) {e : CbEvent} {re : Reaction}
    (hr : c.toCfg.reactionFor e = some re) (h : Handle) : (re.run h).All ContractReq := by
  obtain ⟨api, ho, hrun⟩ := SysCfg.reactionFor_some hr
  rw [hrun]
  exact (contract_api c.cap c.fuel api (ho.elim (hc.1 api) fun ho => ho.elim (hc.2.1 api) (hc.2.2 api))).all h

theorem onCb_allOk (c : SysCfg) (hc : c.Valid) (e : CbEvent) (h : Handle) (w : World) (j : BusAllOk w) :
    BusAllOk (c.toCfg.onCb e h w).world :=
  c.toCfg.onCb_preserves (fun _ _ j => j)
    (fun _ _ hr h w j => execG_allOk _ logCb (fun _ _ _ j => j) _ (hc.reaction hr h) w j) e h w j

/-- **C19 (driver side).** For either build (register cache on or off), every packet-buffer
    size, any initial chip, any history of valid API calls, handler invocations, environment
    events (also between the transfers of a call) and failing transfers: every transfer the
    driver puts on the bus during any operation is within the SPI contract. -/
theorem C19_driver_requests_valid (c : SysCfg) (hc : c.Valid) (s : Sys) (op : Op) (hop : op.Valid)
    (r : Except Code Out) (cbs : List CbRec) (bus : List BusEv) (hobs : (s.step c op).2 = .ret r cbs bus) :
    ∀ ev ∈ bus, BusOk ev := by
  cases op with
  | env e => cases hobs
  | api a sched faults =>
    rw [Sys.step_api] at hobs
    split at hobs
    · cases hobs
    · have := execG_allOk c.toCfg.cached c.toCfg.onCb (onCb_allOk c hc) _
        ((contract_api c.cap c.fuel a hop).all (s.handle.getD {})) (s.start a sched faults) (fun _ h => nomatch h)
      unfold exec at hobs
      generalize execG c.toCfg.cached c.toCfg.onCb _ _ = out at this hobs
      match out with
      | .ub u w => cases hobs
      | .done (r', h) w =>
        cases hobs
        exact fun ev hev => this ev (List.mem_reverse.1 hev)

def Obs.bus : Obs → List BusEv
  | .ret _ _ b => b
  | _ => []

/-- non-vacuity: a concrete valid operation with a transfer on the bus -/
example : (Sys.step {} { world := { chip := Chip.init } } (.api .create [] [])).2.bus.length = 1 := by
  decide +kernel

end Sx

namespace Sx.Backend

/-- the transaction the SPI interface documents for a read of `n` bytes at `reg`: the address with
    the write bit clear, then `n` idle bytes while the chip answers -/
def readFrame (reg n : Nat) : List UInt8 := byte reg :: zeros n
/-- … and for a write: the address with the write bit set, then the data bytes in order -/
def writeFrame (reg : Nat) (data : List UInt8) : List UInt8 := byte (reg + 128) :: data

/-- the first byte of a read frame has the write bit clear, that of a write frame has it set, and
    the low seven bits are the address -/
theorem C19_backend_write_bit : ∀ reg, reg ≤ 0x7f →
    (byte reg).toNat = reg ∧ (byte (reg + 128)).toNat = reg + 128 :=
  fun _ h => ⟨byte_of_lt (by omega), byte_of_lt (by omega)⟩

inductive Impl | linux | esp
  deriving DecidableEq

def readRegisters : Impl → Nat → Nat → Wire → Out
  | .linux => linReadRegisters | .esp => espReadRegisters
def readBuffer : Impl → Nat → Nat → Wire → Out
  | .linux => linReadBuffer | .esp => espReadBuffer
def writeRegister : Impl → Nat → List UInt8 → Wire → Out
  | .linux => linWriteRegister | .esp => espWriteRegister
def writeBuffer : Impl → Nat → List UInt8 → Wire → Out
  | .linux => linWriteBuffer | .esp => espWriteBuffer

/-- **C19 (backends), register read.** For either backend, every register address, every length
    1..4, every byte clocked in during the address phase and every answer of the chip: exactly one
    transaction, whose bytes are the address with the write bit clear followed by idle bytes; the
    call returns 0 and stores the chip's bytes most significant first. -/
theorem C19_backend_read_registers (i : Impl) (reg n : Nat) (hr : reg ≤ 0x7f) (h1 : 1 ≤ n) (h4 : n ≤ 4)
    (g : UInt8) (ans : List UInt8) (hl : ans.length = n) :
    readRegisters i reg n { garbage := g, miso := ans } =
      { rc := 0, frames := [readFrame reg n], word := some (msbFirst ans) } := by
  have hn : ¬ (n = 0 ∨ n > 4) := by omega
  cases i with
  | linux =>
    simp only [readRegisters, linReadRegisters, Gen.LIN_read_registers_GUARD, if_neg hn, ne_eq, not_true_eq_false,
      if_false, and_7f_of_le reg hr, leBytes_small n reg (by omega), lin_word g ans n h1 h4 hl, readFrame]
  | esp =>
    simp only [readRegisters, espReadRegisters, Gen.ESP_read_registers_GUARD, if_neg hn, ne_eq, not_true_eq_false,
      if_false, and_7f_of_le' reg hr, readFrame]
    have := esp_word ans n h4 hl
    simp only [rxData] at this ⊢
    rw [this]

/-- **C19 (backends), register write.** Exactly one transaction: the address with the write bit
    set, then the data bytes in order; the call returns 0. -/
theorem C19_backend_write_register (i : Impl) (reg : Nat) (hr : reg ≤ 0x7f) (data : List UInt8)
    (h1 : 1 ≤ data.length) (h4 : data.length ≤ 4) (g : UInt8) (ans : List UInt8) :
    writeRegister i reg data { garbage := g, miso := ans } = { rc := 0, frames := [writeFrame reg data] } := by
  have hn : ¬ (data.length = 0 ∨ data.length > 4) := by omega
  cases i with
  | linux =>
    simp only [writeRegister, linWriteRegister, Gen.LIN_write_register_GUARD, if_neg hn, ne_eq, not_true_eq_false,
      if_false, or_80_of_le reg hr, writeFrame]
  | esp =>
    simp only [writeRegister, espWriteRegister, Gen.ESP_write_register_GUARD, if_neg hn, or_80_of_le reg hr, writeFrame]

/-- **C19 (backends), buffer read** of 1..2047 bytes: one transaction, the chip's bytes in order. -/
theorem C19_backend_read_buffer (i : Impl) (reg n : Nat) (hr : reg ≤ 0x7f) (h1 : 1 ≤ n) (hm : n ≤ 2047)
    (g : UInt8) (ans : List UInt8) (hl : ans.length = n) :
    readBuffer i reg n { garbage := g, miso := ans } = { rc := 0, frames := [readFrame reg n], buf := some ans } := by
  cases i with
  | linux =>
    have e := rxBytes_exact g ans n hl
    simp only [readBuffer, linReadBuffer, Gen.SPI_MAX_TRANSFER_SIZE, if_neg (show ¬ n < 1 by omega),
      if_neg (show ¬ n > 2047 by omega), ne_eq, not_true_eq_false, if_false, and_7f_of_le reg hr, readFrame, e]
  | esp =>
    have e := rxData_exact ans n hl
    simp only [rxData] at e
    simp only [readBuffer, espReadBuffer, ne_eq, not_true_eq_false, if_false, and_7f_of_le' reg hr, readFrame, rxData, e]

/-- **C19 (backends), buffer write** of 1..2047 bytes: one transaction, address with the write bit,
    then the caller's bytes in order. -/
theorem C19_backend_write_buffer (i : Impl) (reg : Nat) (hr : reg ≤ 0x7f) (data : List UInt8)
    (h1 : 1 ≤ data.length) (hm : data.length ≤ 2047) (g : UInt8) (ans : List UInt8) :
    writeBuffer i reg data { garbage := g, miso := ans } = { rc := 0, frames := [writeFrame reg data] } := by
  cases i with
  | linux =>
    simp [writeBuffer, linWriteBuffer, Gen.SPI_MAX_TRANSFER_SIZE, show ¬ data.length < 1 by omega,
      show ¬ data.length > 2047 by omega, or_80_of_le reg hr, writeFrame]
  | esp => simp [writeBuffer, espWriteBuffer, or_80_of_le reg hr, writeFrame]

/-- **C19 (backends), failures.** Whatever the request, a transaction that fails (the primitive
    reports a non-zero `errno` / `esp_err_t`) is never reported as success, and no call issues more
    than one transaction. -/
theorem C19_backend_failure_reported (i : Impl) (reg n : Nat) (data : List UInt8) (w : Wire) (hf : w.fail ≠ 0) :
    (∀ o ∈ [readRegisters i reg n w, readBuffer i reg n w, writeRegister i reg data w, writeBuffer i reg data w],
      o.frames.length ≤ 1 ∧ (o.frames ≠ [] → o.rc ≠ 0)) := by
  intro o ho
  simp only [List.mem_cons, List.mem_nil_iff, or_false] at ho
  cases i <;> rcases ho with rfl | rfl | rfl | rfl <;>
    simp only [readRegisters, readBuffer, writeRegister, writeBuffer, linReadRegisters, linReadBuffer, linWriteRegister,
      linWriteBuffer, espReadRegisters, espReadBuffer, espWriteRegister, espWriteBuffer] <;>
    (repeat' split) <;> simp_all

/-- **C19 (backends), out-of-contract lengths.** A register transfer of 0 or more than 4 bytes is
    refused by both backends without a transaction; the Linux backend also refuses a buffer
    transfer above 2047 bytes, and no transaction it issues is longer than the local arrays it
    is staged in. -/
theorem C19_backend_lengths_guarded (i : Impl) (reg n : Nat) (data : List UInt8) (w : Wire) :
    ((n = 0 ∨ n > 4) → (readRegisters i reg n w).rc ≠ 0 ∧ (readRegisters i reg n w).frames = []) ∧
    ((data.length = 0 ∨ data.length > 4) → (writeRegister i reg data w).rc ≠ 0 ∧ (writeRegister i reg data w).frames = []) ∧
    (∀ f ∈ (linReadRegisters reg n w).frames, f.length ≤ 8) ∧
    (∀ f ∈ (linWriteRegister reg data w).frames, f.length ≤ Gen.LIN_write_register_tmp_SIZE) ∧
    (∀ f ∈ (linReadBuffer reg n w).frames, f.length ≤ Gen.LIN_read_buffer_tx_buf_SIZE ∧ f.length ≤ Gen.LIN_read_buffer_rx_buf_SIZE) ∧
    (∀ f ∈ (linWriteBuffer reg data w).frames, f.length ≤ Gen.LIN_write_buffer_tx_buf_SIZE) ∧
    (n > 2047 → (linReadBuffer reg n w).rc ≠ 0 ∧ (linReadBuffer reg n w).frames = []) ∧
    (data.length > 2047 → (linWriteBuffer reg data w).rc ≠ 0 ∧ (linWriteBuffer reg data w).frames = []) := by
  have lz : ∀ k, (zeros k).length = k := zeros_length
  refine ⟨?_, ?_, ?_, ?_, ?_, ?_, ?_, ?_⟩
  · intro h; cases i <;> simp [readRegisters, linReadRegisters, espReadRegisters, Gen.LIN_read_registers_GUARD,
      Gen.ESP_read_registers_GUARD, h, EINVAL_LEN, Gen.ESP_ERR_INVALID_ARG]
  · intro h; cases i <;> simp only [writeRegister, linWriteRegister, espWriteRegister, Gen.LIN_write_register_GUARD,
      Gen.ESP_write_register_GUARD, if_pos h, EINVAL_LEN, Gen.ESP_ERR_INVALID_ARG] <;> decide
  · intro f hf
    simp only [linReadRegisters, Gen.LIN_read_registers_GUARD] at hf
    split at hf
    · simp at hf
    · rename_i hn
      have e : f = leBytes (n + 1) ((reg % 256) &&& 0x7f) := by split at hf <;> simpa using hf
      have : ∀ k x, (leBytes k x).length = k := by
        intro k; induction k with
        | zero => intro x; rfl
        | succ k ih => intro x; simp [leBytes, ih]
      rw [e, this]; omega
  · intro f hf
    simp only [linWriteRegister, Gen.LIN_write_register_GUARD] at hf
    split at hf
    · simp at hf
    · rename_i hn
      have e : f = byte (reg ||| 0x80) :: data := by split at hf <;> simpa using hf
      rw [e]; simp only [List.length_cons, Gen.LIN_write_register_tmp_SIZE]; omega
  · intro f hf
    simp only [linReadBuffer, Gen.SPI_MAX_TRANSFER_SIZE] at hf
    split at hf
    · simp at hf
    · split at hf
      · simp at hf
      · have e : f = byte ((reg % 256) &&& 0x7f) :: zeros n := by split at hf <;> simpa using hf
        rw [e]; simp only [List.length_cons, lz, Gen.LIN_read_buffer_tx_buf_SIZE, Gen.LIN_read_buffer_rx_buf_SIZE]; omega
  · intro f hf
    simp only [linWriteBuffer, Gen.SPI_MAX_TRANSFER_SIZE] at hf
    split at hf
    · simp at hf
    · split at hf
      · simp at hf
      · have e : f = byte (reg ||| 0x80) :: data := by split at hf <;> simpa using hf
        rw [e]; simp only [List.length_cons, Gen.LIN_write_buffer_tx_buf_SIZE]; omega
  · intro h
    simp [linReadBuffer, Gen.SPI_MAX_TRANSFER_SIZE, show ¬ n < 1 by omega, h, Gen.ENOMEM]
  · intro h
    simp [linWriteBuffer, Gen.SPI_MAX_TRANSFER_SIZE, show ¬ data.length < 1 by omega, h, Gen.ENOMEM]

/-- non-vacuity / a concrete instance: reading the three carrier registers through the Linux backend -/
example : linReadRegisters 0x06 3 { garbage := 0xa5, miso := [0x6c, 0x80, 0x01] } =
    { rc := 0, frames := [[0x06, 0, 0, 0]], word := some 0x6c8001 } := by decide +kernel
example : espWriteRegister 0x06 [0x6c, 0x80, 0x01] {} = { rc := 0, frames := [[0x86, 0x6c, 0x80, 0x01]] } := by
  decide +kernel
example : (linReadBuffer 0 2048 {}).rc = 12 ∧ (linReadRegisters 1 5 {}).rc = -1 ∧ (espReadRegisters 1 0 {}).rc = 258 := by
  decide +kernel

end Sx.Backend
