import Sx.Lemmas.RejectAll
/-
  C10 — rejected calls have no effect; modulation-specific calls are gated.
-/
namespace Sx
open Sx.Model DM Mem Chip

/-- the modulation a function is documented for -/
inductive Gate
  | lora | fsk | ook | fskOok
  deriving DecidableEq, Repr

def Gate.blocks : Gate → Nat → Prop
  | .lora, m => m ≠ Gen.SX127x_MODULATION_LORA
  | .fsk, m => m ≠ Gen.SX127x_MODULATION_FSK
  | .ook, m => m ≠ Gen.SX127x_MODULATION_OOK
  | .fskOok, m => m ≠ Gen.SX127x_MODULATION_FSK ∧ m ≠ Gen.SX127x_MODULATION_OOK

/-- sx127x.h: which functions are specific to one modulation (the `lora_`, `fsk_`, `ook_` and
    `fsk_ook_` prefixes of the public names) -/
def Api.gate : Api → Option Gate
  | .loraResetFifo | .loraSetBandwidth _ | .loraGetBandwidth | .loraSetModemConfig2 _
  | .loraSetLowDatarateOptimization _ | .loraSetSyncword _ | .loraSetImplicitHeader _ | .loraTxSetExplicitHeader _
  | .loraSetFrequencyHopping _ _ _ | .loraRxGetPacketSnr | .loraTxSetForTransmission _ | .loraSetPpmOffset _ => some .lora
  | .fskSetFdev _ | .fskSetDataShaping _ _ => some .fsk
  | .ookRxSetPeakMode _ _ _ | .ookRxSetFixedMode _ | .ookRxSetAvgMode _ _ | .ookSetDataShaping _ _ => some .ook
  | .fskOokTxSetForTransmission _ | .fskOokTxSetForTransmissionWithAddress _ _ | .fskOokTxStartBeacon _ _
  | .fskOokTxStopBeacon | .fskOokSetBitrate _ | .fskOokRxSetCollisionRestart _ _ | .fskOokRxSetAfcAuto _
  | .fskOokRxSetAfcBandwidth _ | .fskOokRxSetBandwidth _ | .fskOokRxSetTrigger _ | .fskOokSetSyncword _
  | .fskOokRxSetRssiConfig _ _ | .fskOokSetPacketEncoding _ | .fskOokSetCrc _ | .fskOokSetPacketFormat _ _
  | .fskOokSetAddressFiltering _ _ _ | .fskOokSetPreambleType _ | .fskOokRxSetPreambleDetector _ _ _
  | .fskOokRxCalibrate | .fskOokGetRawTemperature | .fskOokSetTempMonitor _ => some .fskOok
  | _ => none

/-- a function that begins with `CHECK_MODULATION` is, under another modulation, the program that
    returns `SX127X_ERR_INVALID_STATE` — whatever follows the check -/
theorem checkModulation_blocked {α β : Type} {m : Nat} {h : Handle} (hb : h.activeModem ≠ m)
    (f : Unit → DM α) (g : α → DM β) :
    ((checkModulation m >>= f) >>= g) h = .ret (.error Gen.SX127X_ERR_INVALID_STATE, h) := by
  simp only [checkModulation, bind, DM.bind', getH, Prog.bind, if_pos hb, fail]

theorem checkFskOok_blocked {α β : Type} {h : Handle}
    (hb : h.activeModem ≠ Gen.SX127x_MODULATION_FSK ∧ h.activeModem ≠ Gen.SX127x_MODULATION_OOK)
    (f : Unit → DM α) (g : α → DM β) :
    ((checkFskOok >>= f) >>= g) h = .ret (.error Gen.SX127X_ERR_INVALID_STATE, h) := by
  simp only [checkFskOok, bind, DM.bind', getH, Prog.bind, if_pos hb, fail]

/-- **C10, gating.** A function specific to one modulation, called while another modulation is
    active, is the program that returns `SX127X_ERR_INVALID_STATE` at once: it issues no request at
    all (so nothing is read, written or cached) and leaves the handle as it is — for every argument. -/
theorem C10_gated (cap fuel : Nat) (a : Api) (g : Gate) (hg : a.gate = some g) (h : Handle)
    (hb : g.blocks h.activeModem) :
    Api.prog cap fuel a h = .ret (.error Gen.SX127X_ERR_INVALID_STATE, h) := by
  -- every gated function is its modulation check followed by the rest
  cases a <;> cases hg
  all_goals first | exact checkFskOok_blocked hb _ _ | exact checkModulation_blocked hb _ _

/-- non-vacuity: an FSK handle blocks the LoRa functions -/
example : Gate.blocks .lora ({ activeModem := Gen.SX127x_MODULATION_FSK } : Handle).activeModem := by
  unfold Gate.blocks; decide

/-- non-vacuity: a refusal exists (SF6 without implicit header on a LoRa handle) -/
example : ∃ c h' s', runP (Api.prog 16 10 (.loraSetModemConfig2 Gen.SX127x_SF_6) { activeModem := Gen.SX127x_MODULATION_LORA })
    ⟨Chip.init, [], []⟩ = .done (.error c, h') s' ∧ isReject c :=
  ⟨Gen.SX127X_ERR_INVALID_ARG, _, _, rfl, Or.inl rfl⟩

/-- every call except those whose refusal is handled by C17 (`create`) or that return nothing (`irq`) -/
def Api.Plain (a : Api) : Prop := a.isIrq = false ∧ a.isCreate = false

/-- arguments of enumeration type are one of the enumerators where the function stores them
    before a check that depends on the chip -/
def Api.EnumArgs : Api → Prop
  | .loraSetModemConfig2 sf => sf ∈ Gen.enum_sx127x_sf_t
  | _ => True

/-- **C10, refusals (plain execution).** For every public function except `create` (C17) and the
    `void` interrupt handler, every argument (the spreading factor of
    `sx127x_lora_set_modem_config_2` one of the enumerators, `Api.EnumArgs`), every handle and every
    well-formed chip state that agrees with the handle on the LoRa page: if the call returns
    `SX127X_ERR_INVALID_ARG` or `SX127X_ERR_INVALID_STATE`, no write request was issued and the
    handle is unchanged. -/
theorem C10_rejected_call_has_no_effect (cap fuel : Nat) (a : Api) (hp : a.Plain) (he : a.EnumArgs)
    (h : Handle) (chip : Chip) (wf : chip.WF)
    (hpage : h.activeModem = Gen.SX127x_MODULATION_LORA → chip.isLora = true) :
    RejectClean (Api.prog cap fuel a) h chip := by
  cases a
  case irq => exact absurd hp.1 (by decide)
  case create => exact absurd hp.2 (by decide)
  case loraSetBandwidth bw => exact (c10_setBandwidth bw h chip wf hpage).api _
  case loraSetModemConfig2 sf => exact (c10_setModemConfig2 sf he h chip wf hpage).api _
  all_goals refine RejectClean.api (RC.clean ?_ h chip) _
  case txSetPaConfig => exact rc_txSetPaConfig _ _
  case fskOokTxStartBeacon => exact rc_fskOokTxStartBeacon _ _
  case setFrequency => unfold setFrequency; rc_walk
  case loraSetLowDatarateOptimization => unfold loraSetLowDatarateOptimization; rc_walk
  case txSetOcp => unfold txSetOcp; rc_walk
  case fskOokTxSetForTransmission => unfold fskOokTxSetForTransmission; rc_walk
  -- the other calls: unfold the function behind the call where `api_body` has it, and traverse
  all_goals first | (dsimp only [api_body]; rc_walk) | rc_walk

/-- **C10 in the build with the register cache, after any history.** From any state reachable by
    an admissible history (`Inv`, C01), for the calls and arguments of
    `C10_rejected_call_has_no_effect` that are also within `Api.Valid`, made without failing transfers
    or chip events during the call and without callback reactions (`NoReact`): if it returns an
    argument or state error, the bus carried no write and the handle is the one before the call. -/
theorem C10_cached (c : SysCfg) (hc : c.cached = true) (hnr : c.NoReact) (s : Sys) (i : Inv s.world)
    (a : Api) (hv : a.Valid) (hp : a.Plain) (he : a.EnumArgs) (h : Handle) (hh : s.handle = some h)
    (hpage : h.activeModem = Gen.SX127x_MODULATION_LORA → s.world.chip.isLora = true)
    (code : Code) (hcode : isReject code) (cbs : List CbRec) (bus : List BusEv)
    (hret : (s.step c (.api a [] [])).2 = .ret (.error code) cbs bus) :
    (s.step c (.api a [] [])).1.handle = some h ∧ writesOf bus = [] := by
  obtain ⟨h', ps, hr, hhd, hw⟩ := step_cached_ret c hc hnr s i a hv h hh hp.2 _ cbs bus hret
  obtain ⟨e1, e2⟩ := C10_rejected_call_has_no_effect c.cap c.fuel a hp he h s.world.chip i.chip hpage code h' ps hr hcode
  subst e1
  refine ⟨hhd, ?_⟩
  rw [hw]
  rw [writesP_eq] at e2
  unfold writesOf at e2 ⊢
  rw [List.filter_reverse, e2]
  rfl

end Sx
