import Sx.Props.C14.Table
import Sx.Lemmas.FifoFsk
import Sx.Lemmas.Cells
/-
  C14 — the beacon period is programmed to the requested interval.

  * `C14_every_interval`: for each of the 133 620 documented intervals the timer selection
    (`beaconTimers`, the model in soft-float of `sx127x_timer_coefficient` and the selection at the
    head of `sx127x_fsk_ook_tx_start_beacon`) yields two enabled
    timers whose period never exceeds the request and falls short of it by at most one step of the
    finer timer, which is at most 4.1 ms up to 67 855 ms (only the 262 ms resolution fits above).
    By arithmetic on the rounding of each step (Sx/Lemmas/Beacon.lean), with kernel evaluation for
    the 49 quotients by the float 0.064 (Sx/Props/C14/Table.lean).
  * `C14_start_beacon` / `C14_stop_beacon`: what the call does with those values, the payload,
    the beacon bit and the sequencer, for every payload, prior register content and FIFO content.
-/
namespace Sx
open Mem Chip Sx.Model DM

/-- **C14, the period.** For every interval of 1..133620 ms the timer selection yields coefficients
    and a RegTimerResol value with both timers enabled and nothing outside the low nibble; the
    period they realise does not exceed the request and falls short of it by at most one step of
    the finer timer, which is at most 4.1 ms unless the interval is above 67855 ms. -/
theorem C14_every_interval (iv : Nat) (h1 : 1 ≤ iv) (h2 : iv ≤ 133620) :
    ∃ c1 c2 resol, beaconTimers iv = some (c1, c2, resol) ∧
      (resol >>> 2) &&& 3 ≠ 0 ∧ resol &&& 3 ≠ 0 ∧ resol &&& 0xf0 = 0 ∧
      0 ≤ (iv : Rat) - (beaconPeriod c1 c2 resol).1 ∧
      (iv : Rat) - (beaconPeriod c1 c2 resol).1 ≤ (beaconPeriod c1 c2 resol).2 ∧
      ((beaconPeriod c1 c2 resol).2 ≤ 41/10 ∨ iv > 67855) := by
  have h := beacon_table iv h1 h2
  unfold beaconOk at h
  cases hb : beaconTimers iv with
  | none => rw [hb] at h; cases h
  | some t =>
    obtain ⟨c1, c2, resol⟩ := t
    rw [hb] at h
    simp only [Bool.and_eq_true, Bool.or_eq_true, decide_eq_true_eq] at h
    obtain ⟨⟨⟨⟨⟨k1, k2⟩, k3⟩, k4⟩, k5⟩, k6⟩ := h
    exact ⟨c1, c2, resol, rfl, k1, k2, k3, k4, k5, k6⟩

/-- non-vacuity: 1000 ms is 243 x 4.1 ms + 57 x 64 us -/
example : beaconTimers 1000 = some (243, 57, 0x09) := by decide +kernel

theorem wfsk (c : Chip) (a : Nat) (v : UInt8) (hl : c.isLora = false) (h : a < 128 ∧ inPage a = true ∧ a ≠ 0x3e ∧ a ≠ 0x3f) :
    c.write a v = { c with fsk := c.fsk.wr a v } := write_fsk c a v hl h.1 h.2.1 h.2.2.1 h.2.2.2

/-- **C14, starting the beacon.** With FSK or OOK active, in fixed packet format, with a packet
    buffer of at least 64 bytes, for a payload of at most 64 bytes and an interval whose timers are
    `(c1, c2, resol)`: the call succeeds, the three timer registers hold
    exactly those values, the FIFO holds exactly the payload (whatever it held before), BeaconOn
    (bit 3 of RegPacketConfig2) is set with the other bits of that register kept, and the write
    that sets it precedes the write that starts the sequencer. -/
theorem C14_start_beacon (data : List UInt8) (hd : data.length ≤ 64) (iv : Nat) (c1 c2 resol : UInt8)
    (hbt : beaconTimers iv = some (c1, c2, resol)) (h : Handle) (c : Chip) (wf : c.WF)
    (hm : h.activeModem = Gen.SX127x_MODULATION_FSK ∨ h.activeModem = Gen.SX127x_MODULATION_OOK)
    (hl : c.isLora = false) (hfmt : h.format = Gen.SX127X_FIXED) (hcap : 64 ≤ h.packet.length) :
    wp (fskOokTxStartBeacon data iv) h ⟨c, [], []⟩ (fun r _ s' =>
      r = .ok () ∧ s'.chip.fsk.rd 0x39 = c1 ∧ s'.chip.fsk.rd 0x3a = c2 ∧ s'.chip.fsk.rd 0x38 = resol ∧
      s'.chip.fifo = data ∧ s'.chip.fsk.rd 0x31 = (c.fsk.rd 0x31 &&& 0xf7) ||| 0x08 ∧ s'.chip.fsk.rd 0x36 = 0xa4 ∧
      (∃ v rest, s'.bus = .w 0x36 [0xa4] (.ok ()) :: .w 0x31 [v] (.ok ()) :: rest ∧ v &&& 0x08 = 0x08) ∧
      s'.chip.shared = c.shared ∧ s'.chip.lora = c.lora ∧ s'.chip.buf = c.buf) := by
  have hgate : ¬(h.activeModem ≠ Gen.SX127x_MODULATION_FSK ∧ h.activeModem ≠ Gen.SX127x_MODULATION_OOK) := by
    rcases hm with e | e <;> simp [e]
  have hf1 : ¬h.format ≠ Gen.SX127X_FIXED := by simp [hfmt]
  have hf2 : ¬data.length > Gen.FIFO_SIZE_FSK := by have : Gen.FIFO_SIZE_FSK = 64 := rfl; omega
  have hf2' : ¬(data.length > Gen.FIFO_SIZE_FSK ∨ data.length > h.packet.length) := by
    have : Gen.FIFO_SIZE_FSK = 64 := rfl
    omega
  unfold fskOokTxStartBeacon
  simp only [wp_bind, wp_checkFskOok, if_neg hgate, wp_getH]
  rw [wp_ite, if_neg hf1, wp_ite, if_neg hf2']
  simp only [hbt]
  simp only [wp_bind, wp_swrite, writeN_one, Gen.REGTIMER1COEF, Gen.REGTIMER2COEF,
    Gen.REGTIMERRESOL, Gen.REGFIFOTHRESH]
  rw [wfsk c 0x39 c1 hl (by decide)]
  rw [wfsk _ 0x3a c2 (by exact hl) (by decide)]
  rw [wfsk _ 0x38 resol (by exact hl) (by decide)]
  rw [wfsk _ 0x35 _ (by exact hl) (by decide)]
  rw [write_flush_fsk _ (by exact hl)]
  -- the transmit call: fixed format, at most 64 bytes
  have h1 : ¬(h.format = Gen.SX127X_VARIABLE ∧ data.length > Gen.MAX_PACKET_SIZE) := by
    rw [hfmt]; intro ⟨e, _⟩; exact absurd e (by decide)
  have h2 : ¬(h.format = Gen.SX127X_FIXED ∧ data.length > Gen.MAX_PACKET_SIZE_FSK_FIXED) := by
    intro ⟨_, e⟩
    have : Gen.MAX_PACKET_SIZE_FSK_FIXED = 2047 := rfl
    omega
  have h3 : ¬h.format = Gen.SX127X_VARIABLE := by rw [hfmt]; decide
  unfold fskOokTxSetForTransmission
  simp only [wp_bind, wp_checkFskOok, if_neg hgate, wp_getH]
  have h4 : ¬(data.length + (if h.format = Gen.SX127X_VARIABLE then 1 else 0) > h.packet.length) := by
    rw [if_neg h3]; omega
  rw [wp_ite, if_neg h1, wp_ite, if_neg h2, wp_ite, if_neg h4, wp_ite, if_neg h3]
  unfold packetCopy fskOokTxWithRemaining
  simp only [wp_bind, wp_getH, wp_modH]
  have hn16 : (UInt16.ofNat data.length).toNat = data.length := by
    simp only [UInt16.toNat_ofNat']
    omega
  have hts : (if (UInt16.ofNat data.length).toNat > Gen.FIFO_SIZE_FSK then Gen.FIFO_SIZE_FSK
      else (UInt16.ofNat data.length).toNat) = data.length := by
    rw [hn16, if_neg hf2]
  rw [wp_ite, if_pos (by omega), wp_setH]
  simp only [hts]
  rw [wp_ite, if_pos (by simp; omega)]
  rw [wp_bwrite]
  simp only [rds_wrs_zero h.packet data (by omega), Gen.REGFIFO]
  rw [writeN_fifo_fsk data _ (by exact hl) (by rw [flush10_fifo]; simp; omega)]
  simp only [flush10_fifo, List.nil_append]
  unfold appendRegister
  simp only [wp_bind, wp_rread, wp_swrite, writeN_one, Gen.REGPACKETCONFIG2,
    Gen.REGSEQCONFIG1, readN_one _ 0x31 (by decide), show (0x31 % 128) = 0x31 from rfl]
  rw [peek_fsk _ 0x31 (by exact hl) (by decide) (by decide), be32_single]
  rw [wfsk _ 0x31 _ (by exact hl) (by decide)]
  rw [wfsk _ 0x36 _ (by exact hl) (by decide)]
  refine ⟨trivial, ?_, ?_, ?_, rfl, ?_, ?_, ⟨_, _, rfl, ?_⟩, rfl, rfl, rfl⟩
  all_goals dsimp only
  all_goals simp only [Mem.rd_wr, Mem.length_wr, flush10, Chip.fifoFlush, wf.hf, Nat.reduceEqDiff, Nat.reduceLT, false_and,
    and_self, ↓reduceIte]
  -- BeaconOn is inside the byte written
  rw [or_and_mask, and_mask_off _ rfl]
  rfl

/-- **C14, stopping the beacon.** With FSK or OOK active: the call succeeds, the sequencer is
    stopped, the FIFO flushed, and BeaconOn cleared with the other bits of RegPacketConfig2 kept. -/
theorem C14_stop_beacon (h : Handle) (c : Chip) (wf : c.WF)
    (hm : h.activeModem = Gen.SX127x_MODULATION_FSK ∨ h.activeModem = Gen.SX127x_MODULATION_OOK)
    (hl : c.isLora = false) :
    wp fskOokTxStopBeacon h ⟨c, [], []⟩ (fun r h' s' =>
      r = .ok () ∧ h' = h ∧ s'.chip.fifo = [] ∧ s'.chip.fsk.rd 0x31 = c.fsk.rd 0x31 &&& 0xf7 ∧
      s'.chip.fsk.rd 0x36 = 0x40 ∧ s'.chip.shared = c.shared ∧ s'.chip.lora = c.lora ∧ s'.chip.buf = c.buf) := by
  have hgate : ¬(h.activeModem ≠ Gen.SX127x_MODULATION_FSK ∧ h.activeModem ≠ Gen.SX127x_MODULATION_OOK) := by
    rcases hm with e | e <;> simp [e]
  unfold fskOokTxStopBeacon appendRegister
  simp only [wp_bind, wp_checkFskOok, if_neg hgate, wp_swrite, wp_rread, writeN_one,
    Gen.REGSEQCONFIG1, Gen.REGIRQFLAGS2, Gen.REGPACKETCONFIG2,
    readN_one _ 0x31 (by decide), show (0x31 % 128) = 0x31 from rfl]
  rw [wfsk c 0x36 _ hl (by decide)]
  rw [write_flush_fsk _ (by exact hl)]
  rw [peek_fsk _ 0x31 (by exact hl) (by decide) (by decide), be32_single]
  rw [wfsk _ 0x31 _ (by exact hl) (by decide)]
  refine ⟨trivial, trivial, rfl, ?_, ?_, rfl, rfl, rfl⟩
  all_goals dsimp only
  all_goals simp only [Mem.rd_wr, Mem.length_wr, flush10, Chip.fifoFlush, wf.hf, Nat.reduceEqDiff, Nat.reduceLT, false_and,
    and_self, ↓reduceIte, UInt8.or_zero]

end Sx
