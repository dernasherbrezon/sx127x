import Sx.Props.C05
/-
  C06 — LoRa transmission programs pointer, length and payload exactly; the transmit callback
  is invoked exactly once per transmit-done event and never otherwise.
-/
namespace Sx
open Sx.Model DM Mem Chip

/-- **C06, queueing a packet.** With LoRa active, for every payload of 1..255 bytes, every prior
    FIFO pointer, buffer content and register content: the call succeeds; afterwards the payload
    length register holds the byte count and byte `i` of the caller's data lies at buffer
    address `i` (the transmit base address 0 that `sx127x_lora_reset_fifo` programs); every
    other buffer byte, the handle, and every other register except the FIFO pointer 0x0d, which
    the call rewrites, are unchanged. -/
theorem C06_set_for_transmission (data : List UInt8) (hd1 : 1 ≤ data.length) (hd2 : data.length ≤ 255)
    (h : Handle) (hm : h.activeModem = Gen.SX127x_MODULATION_LORA) (c : Chip) (wf : c.WF) (hl : c.isLora = true) :
    wp (loraTxSetForTransmission data) h ⟨c, [], []⟩ (fun r h' s' =>
      r = .ok () ∧ h' = h ∧
      s'.chip.lora.rd 0x22 = UInt8.ofNat data.length ∧
      (∀ i, i < data.length → s'.chip.buf.rd i = data.getD i 0) ∧
      (∀ x, data.length ≤ x → s'.chip.buf.rd x = c.buf.rd x) ∧
      (∀ a, a ≠ 0x0d → a ≠ 0x22 → s'.chip.lora.rd a = c.lora.rd a) ∧
      s'.chip.shared = c.shared ∧ s'.chip.fsk = c.fsk) := by
  have hne : data ≠ [] := by intro e; subst e; simp at hd1
  unfold loraTxSetForTransmission
  simp only [wp_bind, wp_checkModulation, hm, ne_eq, not_true_eq_false, ↓reduceIte]
  rw [wp_ite, if_neg (by omega)]
  simp only [wp_bind, wp_swrite, wp_bwrite, writeN_one, Gen.REGFIFOADDRPTR,
    Gen.REGPAYLOADLENGTH, Gen.REGFIFO, show u8 Gen.FIFO_TX_BASE_ADDR = 0 from rfl,
    write_lora _ 0x0d _ hl (by decide) (by decide) (by decide)]
  rw [write_lora _ 0x22 _ (by exact hl) (by decide) (by decide) (by decide)]
  have wf2 : ({ c with lora := (c.lora.wr 0x0d 0).wr 0x22 (u8 data.length) } : Chip).WF :=
    (wf.lora_wr ..).lora_wr ..
  rw [writeN_fifo_lora _ (by exact hl) wf2, if_neg hne]
  have hp : ((c.lora.wr 0x0d 0).wr 0x22 (u8 data.length)).rd 0x0d = 0 := by
    rw [rd_wr_ne _ 0x22 0x0d _ (by decide)]
    exact rd_wr_same _ _ _ (by rw [wf.hl]; decide)
  simp only [hp]
  refine ⟨by trivial, by trivial, ?_, ?_, ?_, ?_, by trivial, by trivial⟩
  · rw [rd_wr_ne _ 0x0d 0x22 _ (by decide)]
    exact rd_wr_same _ _ _ (by simp [wf.hl])
  · intro i hi
    have := bufAfter_data c.buf wf.hb 0 data (by omega) i hi
    simpa [Nat.mod_eq_of_lt (show i < 256 by omega)] using this
  · intro x hx
    apply bufAfter_other
    intro j hj
    simp only [UInt8.toNat_zero, Nat.zero_add]
    rw [Nat.mod_eq_of_lt (by omega)]
    omega
  · intro a h1 h2
    rw [rd_wr_ne _ _ _ _ (Ne.symm h1), rd_wr_ne _ _ _ _ (Ne.symm h2), rd_wr_ne _ _ _ _ (Ne.symm h1)]

/-- an empty packet is rejected without any transfer -/
theorem C06_empty_rejected (h : Handle) (hm : h.activeModem = Gen.SX127x_MODULATION_LORA) (s : PState) :
    wp (loraTxSetForTransmission []) h s (fun r h' s' =>
      r = .error Gen.SX127X_ERR_INVALID_ARG ∧ h' = h ∧ s'.bus = s.bus ∧ s'.chip = s.chip) := by
  unfold loraTxSetForTransmission
  simp only [wp_bind, wp_checkModulation, hm, ne_eq, not_true_eq_false, ↓reduceIte]
  simp only [List.length_nil, ↓reduceIte, wp_ite, wp_fail]
  exact ⟨by trivial, by trivial, by trivial, by trivial⟩

/-- **C06, transmit-done dispatch.** In LoRa mode with a transmit callback registered (`htx`), for
    every flag byte without RxDone and, when a frequency-hopping list is configured, without
    FhssChangeChannel (`hnhop`): the transmit callback is invoked exactly once if TxDone is set and neither CadDone nor
    PayloadCrcError is, and not at all otherwise; no receive callback occurs. -/
theorem C06_tx_done (fuel : Nat) (h : Handle) (c : Chip) (hl : c.isLora = true)
    (hm : h.activeModem = Gen.SX127x_MODULATION_LORA) (htx : h.txCb = true)
    (hnrx : c.lora.rd 0x12 &&& 0x40 = 0) (hnhop : c.lora.rd 0x12 &&& 0x02 = 0 ∨ h.freqs = none) :
    wp (handleInterrupt fuel) h ⟨c, [], []⟩ (fun r h' s' =>
      (s'.cbs.filter (· == .tx)).length =
        (if c.lora.rd 0x12 &&& 0x08 ≠ 0 ∧ c.lora.rd 0x12 &&& 0x04 = 0 ∧ c.lora.rd 0x12 &&& 0x20 = 0 then 1 else 0)
      ∧ ∀ d n, CbEvent.rx d n ∉ s'.cbs) := by
  rw [wp_handleInterrupt_lora _ _ _ _ hm]
  unfold loraHandleInterrupt
  rw [wp_lora_ack _ _ _ _ _ _ hl]
  simp only [wp_bind, wp_getH, irq_bits, hnrx, ne_eq, not_true_eq_false, not_false_eq_true, ↓reduceIte]
  by_cases hcad : c.lora.rd 0x12 &&& 0x04 = 0
  · by_cases hcrc : c.lora.rd 0x12 &&& 0x20 = 0
    · by_cases htxd : c.lora.rd 0x12 &&& 0x08 = 0
      · simp only [hcad, hcrc, htxd, not_true_eq_false, ↓reduceIte, false_and]
        rcases hnhop with hh | hh
        · simp only [hh, not_true_eq_false, ↓reduceIte, wp_pure]
          exact ⟨rfl, fun _ _ hmem => by cases hmem⟩
        · by_cases hhop : c.lora.rd 0x12 &&& 0x02 = 0
          · simp only [hhop, not_true_eq_false, ↓reduceIte, wp_pure]
            exact ⟨rfl, fun _ _ hmem => by cases hmem⟩
          · simp only [hhop, not_false_eq_true, ↓reduceIte, hh, wp_pure]
            exact ⟨rfl, fun _ _ hmem => by cases hmem⟩
      · simp only [hcad, hcrc, htxd, not_true_eq_false, not_false_eq_true, ↓reduceIte, and_self]
        unfold txCallback
        rw [wp_bind, wp_modH]
        dsimp only
        rw [wp_bind, wp_getH]
        dsimp only
        simp only [htx, ↓reduceIte, wp_cb]
        exact ⟨by rfl, fun _ _ hmem => by simp at hmem⟩
    · simp only [hcad, hcrc, not_true_eq_false, not_false_eq_true, ↓reduceIte, wp_modH, and_false, false_and]
      exact ⟨rfl, fun _ _ hmem => by cases hmem⟩
  · simp only [hcad, not_false_eq_true, ↓reduceIte, false_and, and_false]
    split
    · simp only [wp_cb]
      exact ⟨by rfl, fun _ _ hmem => by simp at hmem⟩
    · simp only [wp_pure]
      exact ⟨rfl, fun _ _ hmem => by cases hmem⟩

end Sx
