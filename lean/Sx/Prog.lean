import Sx.Basic
/-
  Driver code as data.  A driver function is a `Prog`: a tree whose nodes are the five
  shadow-layer entry points of sx127x.c (lines 107-205), the one raw SPI call used by
  `sx127x_dump_registers`, application callbacks, and explicit undefined behaviour.
  The register cache is *not* part of a `Prog`; it lives in the interpreter (Sx/Exec.lean),
  exactly as `CONFIG_SX127X_DISABLE_SPI_CACHE` selects between two bodies of the same helpers.
-/
namespace Sx

/-- Host-side state other than the register cache (`struct sx127x_t` minus `spi_device`). -/
structure Handle where
  activeModem : Nat := 0          -- sx127x_modulation_t (a C enum holds any int value)
  opmod : Nat := 0                -- sx127x_mode_t
  implicitHeader : Bool := false
  rxCb : Bool := false            -- callback pointer non-NULL?
  txCb : Bool := false
  cadCb : Bool := false
  packet : Mem := []              -- `uint8_t packet[CONFIG_SX127X_MAX_PACKET_SIZE]`
  expected : UInt16 := 0          -- expected_packet_length
  received : UInt16 := 0          -- fsk_ook_packet_sent_received
  rssiAvail : Bool := false
  rssi : Int := 0                 -- int16_t fsk_rssi
  format : Nat := 0               -- sx127x_packet_format_t
  crcType : Nat := 0              -- sx127x_crc_type_t
  freqs : Option (List UInt64) := none   -- `uint64_t *frequencies` (none = NULL) with the caller's array
  freqLen : UInt8 := 0
  curFreq : UInt8 := 0
  deriving DecidableEq, Repr, Inhabited

/-- What the application sees in a callback. -/
inductive CbEvent
  | rx (data : List UInt8) (len : Nat)   -- first `min len cap` bytes of `packet`, and the length argument
  | tx
  | cad (detected : Nat)
  deriving DecidableEq, Repr, Inhabited

inductive Prog (α : Type) : Type
  | ret      : α → Prog α
  | ub       : UB → Prog α
  /-- `sx127x_shadow_spi_read_registers(reg, dev, n, &result)` -/
  | sread    : (reg n : Nat) → (Except Code UInt32 → Prog α) → Prog α
  /-- `sx127x_read_register(reg, dev, &result)` -/
  | rread    : (reg : Nat) → (Except Code UInt8 → Prog α) → Prog α
  /-- `sx127x_shadow_spi_write_register(reg, data, n, dev)` -/
  | swrite   : (reg : Nat) → (data : List UInt8) → (Except Code Unit → Prog α) → Prog α
  /-- `sx127x_shadow_spi_write_buffer(reg, data, n, dev)` -/
  | bwrite   : (reg : Nat) → (data : List UInt8) → (Except Code Unit → Prog α) → Prog α
  /-- `sx127x_shadow_spi_read_buffer(reg, buf, n, dev)` -/
  | bread    : (reg n : Nat) → (Except Code (List UInt8) → Prog α) → Prog α
  /-- `sx127x_spi_read_buffer` called directly (register dump) -/
  | rawbread : (reg n : Nat) → (Except Code (List UInt8) → Prog α) → Prog α
  /-- invoke an application callback; the application may call API functions on the same
      handle before returning, so the continuation receives the handle as it is afterwards -/
  | callback : CbEvent → Handle → (Handle → Prog α) → Prog α

namespace Prog
def bind : Prog α → (α → Prog β) → Prog β
  | ret a, f => f a
  | ub u, _ => ub u
  | sread r n k, f => sread r n (fun x => (k x).bind f)
  | rread r k, f => rread r (fun x => (k x).bind f)
  | swrite r d k, f => swrite r d (fun x => (k x).bind f)
  | bwrite r d k, f => bwrite r d (fun x => (k x).bind f)
  | bread r n k, f => bread r n (fun x => (k x).bind f)
  | rawbread r n k, f => rawbread r n (fun x => (k x).bind f)
  | callback e h k, f => callback e h (fun x => (k x).bind f)

instance : Monad Prog where
  pure := ret
  bind := bind

@[simp] theorem bind_ret (a : α) (f : α → Prog β) : (ret a).bind f = f a := rfl
@[simp] theorem pure_eq (a : α) : (pure a : Prog α) = ret a := rfl
@[simp] theorem bind_eq (x : Prog α) (f : α → Prog β) : (x >>= f) = x.bind f := rfl
end Prog

/-- a request to the shadow layer, without its continuation -/
inductive Req
  | sread (reg n : Nat)
  | rread (reg : Nat)
  | swrite (reg : Nat) (data : List UInt8)
  | bwrite (reg : Nat) (data : List UInt8)
  | bread (reg n : Nat)
  | rawbread (reg n : Nat)
  deriving DecidableEq, Repr

/-- every request the program can issue — whatever the chip and the bus answer, whatever the
    application does to the handle inside callbacks — satisfies `P` -/
def Prog.All (P : Req → Prop) : Prog α → Prop
  | .ret _ => True
  | .ub _ => True
  | .sread reg n k => P (.sread reg n) ∧ ∀ r, (k r).All P
  | .rread reg k => P (.rread reg) ∧ ∀ r, (k r).All P
  | .swrite reg d k => P (.swrite reg d) ∧ ∀ r, (k r).All P
  | .bwrite reg d k => P (.bwrite reg d) ∧ ∀ r, (k r).All P
  | .bread reg n k => P (.bread reg n) ∧ ∀ r, (k r).All P
  | .rawbread reg n k => P (.rawbread reg n) ∧ ∀ r, (k r).All P
  | .callback _ _ k => ∀ h, (k h).All P

theorem Prog.All_bind {P : Req → Prop} {x : Prog α} {f : α → Prog β}
    (hx : x.All P) (hf : ∀ a, (f a).All P) : (x.bind f).All P := by
  induction x with
  | ret a => exact hf a
  | ub u => trivial
  | sread reg n k ih | rread reg k ih | swrite reg d k ih | bwrite reg d k ih | bread reg n k ih | rawbread reg n k ih =>
      exact ⟨hx.1, fun r => ih r (hx.2 r)⟩
  | callback e h k ih => exact fun h' => ih h' (hx h')

theorem Prog.All_mono {P Q : Req → Prop} (hPQ : ∀ r, P r → Q r) {x : Prog α} (hx : x.All P) : x.All Q := by
  induction x with
  | ret a => trivial
  | ub u => trivial
  | sread reg n k ih | rread reg k ih | swrite reg d k ih | bwrite reg d k ih | bread reg n k ih | rawbread reg n k ih =>
      exact ⟨hPQ _ hx.1, fun r => ih r (hx.2 r)⟩
  | callback e h k ih => exact fun h' => ih h' (hx h')

/-- Driver monad: handle state + C return code over `Prog`.  A C function
    `int f(..., sx127x *device)` is a `DM α`; handle mutations persist on the error path,
    as they do in C. -/
def DM (α : Type) := Handle → Prog (Except Code α × Handle)

namespace DM
@[inline] def pure' (a : α) : DM α := fun h => .ret (.ok a, h)
@[inline] def bind' (x : DM α) (f : α → DM β) : DM β := fun h =>
  (x h).bind fun
    | (.ok a, h') => f a h'
    | (.error c, h') => .ret (.error c, h')
instance : Monad DM where
  pure := pure'
  bind := bind'

/-- `return code;` with a non-OK code -/
@[inline] def fail (c : Code) : DM α := fun h => .ret (.error c, h)
@[inline] def ub (u : UB) : DM α := fun _ => .ub u
@[inline] def getH : DM Handle := fun h => .ret (.ok h, h)
@[inline] def setH (h' : Handle) : DM Unit := fun _ => .ret (.ok (), h')
@[inline] def modH (f : Handle → Handle) : DM Unit := fun h => .ret (.ok (), f h)
/-- run `x` and hand its return code to the caller instead of propagating it -/
@[inline] def attempt (x : DM α) : DM (Except Code α) := fun h =>
  (x h).bind fun (r, h') => .ret (.ok r, h')
/-- lift a C return value: non-zero code fails -/
@[inline] def ofExcept : Except Code α → DM α
  | .ok a => pure' a
  | .error c => fail c

@[inline] def sread (reg n : Nat) : DM UInt32 := fun h => .sread reg n fun r => .ret (r, h)
@[inline] def rread (reg : Nat) : DM UInt8 := fun h => .rread reg fun r => .ret (r, h)
@[inline] def swrite (reg : Nat) (d : List UInt8) : DM Unit := fun h => .swrite reg d fun r => .ret (r, h)
@[inline] def bwrite (reg : Nat) (d : List UInt8) : DM Unit := fun h => .bwrite reg d fun r => .ret (r, h)
@[inline] def bread (reg n : Nat) : DM (List UInt8) := fun h => .bread reg n fun r => .ret (r, h)
@[inline] def rawbread (reg n : Nat) : DM (List UInt8) := fun h => .rawbread reg n fun r => .ret (r, h)
@[inline] def cb (e : CbEvent) : DM Unit := fun h => .callback e h fun h' => .ret (.ok (), h')
end DM

end Sx
