import Sx.Lemmas.Exec
/-
  The shadow layer and the bus never touch the callback log of the current operation.
-/
namespace Sx

theorem busRead_cbs (w : World) (reg n : Nat) : (w.busRead reg n).2.cbs = w.cbs := by
  rw [w.busRead_eq]; exact w.transfer_cbs ..
theorem busReadBuf_cbs (w : World) (reg n : Nat) : (w.busReadBuf reg n).2.cbs = w.cbs := by
  rw [w.busReadBuf_eq]; exact w.transfer_cbs ..
theorem busWrite_cbs (w : World) (reg : Nat) (d : List UInt8) : (w.busWrite reg d).2.cbs = w.cbs := by
  rw [w.busWrite_eq]; exact w.transfer_cbs ..
theorem busWriteBuf_cbs (w : World) (reg : Nat) (d : List UInt8) : (w.busWriteBuf reg d).2.cbs = w.cbs := by
  rw [w.busWriteBuf_eq]; exact w.transfer_cbs ..

theorem Shadow.step_cbs {cached : Bool} {w w' : World} {q : Req} {r : Except Code q.Val}
    (h : Shadow.step cached w q = .ok r w') : w'.cbs = w.cbs := by
  refine Step.Holds.of_eq (J := fun w' => w'.cbs = w.cbs) ?_ h
  cases q with
  | sread reg n =>
    exact sread_cases (M := Step.Holds _) (.inr trivial) (fun _ _ _ => rfl) (busRead_cbs w reg n)
      fun _ _ _ _ w1 hb => show w1.cbs = w.cbs from (congrArg (fun p => p.2.cbs) hb).symm.trans (busRead_cbs w reg n)
  | rread reg =>
    exact rread_cases (M := Step.Holds _) (.inr trivial) (fun _ _ _ => rfl) (busRead_cbs w reg 1)
      fun _ _ _ _ w1 hb => show w1.cbs = w.cbs from (congrArg (fun p => p.2.cbs) hb).symm.trans (busRead_cbs w reg 1)
  | swrite reg d =>
    exact swrite_cases (M := Step.Holds _) (.inr trivial) (fun _ => busWrite_cbs w reg d)
      fun _ _ w1 hb => show w1.cbs = w.cbs from (congrArg (fun p => p.2.cbs) hb).symm.trans (busWrite_cbs w reg d)
  | bwrite reg d =>
    exact bwrite_cases (M := Step.Holds _) (.inr trivial) (fun _ => busWriteBuf_cbs w reg d)
      fun _ _ _ w1 hb => show w1.cbs = w.cbs from (congrArg (fun p => p.2.cbs) hb).symm.trans (busWriteBuf_cbs w reg d)
  | bread reg n => exact busReadBuf_cbs w reg n
  | rawbread reg n => exact busReadBuf_cbs w reg n

end Sx
