import Sx.Lemmas.FloatOps
import Mathlib.Data.Nat.Bitwise
/-
  What the decoders of C12 need beyond FloatOps: sign and magnitude of a two's-complement register
  value, the constants that are exact in binary32, and the float expressions of the frequency-error
  and packet-strength decoders with their error; for the bandwidth search, the minimum a fold finds
  (`foldl_min`) and rounding of any moderate rational (`round_any`).
-/
namespace Sx
open Sx.Model

theorem and_two_pow_ne_zero (n k : Nat) (h : n < 2 ^ (k + 1)) : n &&& 2 ^ k ≠ 0 ↔ 2 ^ k ≤ n := by
  have h2 : 0 < 2 ^ k := Nat.two_pow_pos k
  have h1 : n / 2 ^ k < 2 := Nat.div_lt_of_lt_mul (by rw [← Nat.pow_succ]; exact h)
  have h3 : 2 ^ k ≤ n ↔ 0 < n / 2 ^ k := by rw [Nat.div_pos_iff]; exact ⟨fun e => ⟨h2, e⟩, fun e => e.2⟩
  rw [Nat.and_two_pow n k, Nat.testBit_eq_decide_div_mod_eq, h3]
  generalize n / 2 ^ k = d at h1
  rcases (by omega : d = 0 ∨ d = 1) with rfl | rfl <;> simp

/-- the sign test of the driver: bit `k` of a `k+1`-bit value, `c` being the literal `1 << k` -/
theorem bit_set (raw c : UInt32) (k : Nat) (hc : c.toNat = 2 ^ k) (h : raw.toNat < 2 ^ (k + 1)) :
    raw &&& c ≠ 0 ↔ 2 ^ k ≤ raw.toNat := by
  rw [← and_two_pow_ne_zero raw.toNat k h, ← hc, ← UInt32.toNat_and, ne_eq, ne_eq, ← UInt32.toNat_inj]
  exact Iff.rfl

/-- the magnitude of a negative `k`-bit reading: `(~raw + 1) & mask`, `mask` being the literal
    `(1 << k) - 1` -/
theorem neg_mag (raw mask : UInt32) (k : Nat) (hk : k ≤ 32) (hmask : mask.toNat = 2 ^ k - 1)
    (h : raw.toNat < 2 ^ k) (hn : 0 < raw.toNat) : (((~~~ raw) + 1) &&& mask).toNat = 2 ^ k - raw.toNat := by
  obtain ⟨A, hA⟩ : ∃ A, 2 ^ 32 = (A + 1) * 2 ^ k :=
    ⟨2 ^ (32 - k) - 1, by rw [Nat.sub_add_cancel Nat.one_le_two_pow, ← Nat.pow_add, Nat.sub_add_cancel hk]⟩
  rw [UInt32.toNat_and, UInt32.toNat_add, UInt32.toNat_not, hmask, Nat.and_two_pow_sub_one_eq_mod,
    Nat.mod_mod_of_dvd _ ⟨A + 1, by rw [hA, Nat.mul_comm]⟩, show (1 : UInt32).toNat = 1 from rfl,
    show UInt32.size = 2 ^ 32 from rfl, hA]
  generalize 2 ^ k = B at h ⊢
  have : (A + 1) * B - 1 - raw.toNat + 1 = A * B + (B - raw.toNat) := by
    rw [Nat.add_mul, Nat.one_mul]; omega
  rw [this, Nat.mul_add_mod', Nat.mod_eq_of_lt (by omega)]

/-- sign and magnitude as the decoders split a `k+1`-bit two's-complement reading (`c` the literal
    `1 << k`, `mask` the literal `(1 << (k+1)) - 1`) -/
theorem sign_mag (raw c mask : UInt32) (k : Nat) (hk : k < 32) (hc : c.toNat = 2 ^ k)
    (hmask : mask.toNat = 2 ^ (k + 1) - 1) (h : raw.toNat < 2 ^ (k + 1)) :
    ((if raw &&& c ≠ 0 then (-1 : Int) else 1) = 1 ∨ (if raw &&& c ≠ 0 then (-1 : Int) else 1) = -1) ∧
    (if raw &&& c ≠ 0 then (~~~raw + 1) &&& mask else raw).toNat ≤ 2 ^ k ∧
    (if raw &&& c ≠ 0 then (-1 : Int) else 1) * ((if raw &&& c ≠ 0 then (~~~raw + 1) &&& mask else raw).toNat : Int) =
      if 2 ^ k ≤ raw.toNat then (raw.toNat : Int) - ((2 ^ (k + 1) : Nat) : Int) else raw.toNat := by
  have h2 : 2 ^ (k + 1) = 2 * 2 ^ k := by rw [Nat.pow_succ, Nat.mul_comm]
  by_cases hneg : 2 ^ k ≤ raw.toNat
  · have hm := neg_mag raw mask (k + 1) (by omega) hmask h (lt_of_lt_of_le (Nat.two_pow_pos k) hneg)
    rw [if_pos ((bit_set raw c k hc h).mpr hneg), if_pos ((bit_set raw c k hc h).mpr hneg), if_pos hneg, hm]
    exact ⟨Or.inr rfl, by omega, by omega⟩
  · have hb : ¬(raw &&& c ≠ 0) := fun hc' => hneg ((bit_set raw c k hc h).mp hc')
    rw [if_neg hb, if_neg hb, if_neg hneg]
    exact ⟨Or.inl rfl, by omega, by omega⟩

theorem round_fstep : F.round b32 (32000000 / 524288) = .fin (32000000 / 524288) := by
  have := round_dyadic b32 (by norm_num [b32]) 15625 (by norm_num [b32]) (-8) (by norm_num [b32]) (by norm_num [b32])
  rwa [show ((15625 : Nat) : Rat) * (2 : Rat) ^ (-8 : Int) = 32000000 / 524288 by norm_num] at this

theorem ofInt_one : F.ofInt b32 1 = .fin 1 := by
  have := ofNat32_exact 1 (by norm_num) (by norm_num)
  rwa [F.ofNat_eq, Nat.cast_one] at this

theorem ofInt_neg_one : F.ofInt b32 (-1) = .fin (-1) := by
  have := ofInt_one
  rw [F.ofInt_eq, Int.cast_one] at this
  rw [F.ofInt_eq, Int.cast_neg, Int.cast_one, F.round_neg, this]; rfl

theorem f32_500000 : f32 500000 = .fin 500000 := by
  have := ofNat32_exact 500000 (by norm_num) (by norm_num)
  rwa [F.ofNat_eq, show ((500000 : Nat) : Rat) = 500000 by norm_num] at this

theorem factor_value : F.ofBits32 Gen.SX127x_FREQ_ERROR_FACTOR_bits = .fin (8796093 / 16777216) := by
  unfold F.ofBits32
  have : (Gen.SX127x_FREQ_ERROR_FACTOR_bits : UInt32).toNat = 1057372093 := by decide
  simp only [this]
  norm_num

theorem round_quarter (n : Int) (hn : n.natAbs < 16777216) : F.round b32 ((n : Rat) / 4) = .fin ((n : Rat) / 4) := by
  have key := round_dyadic b32 (by norm_num [b32]) n.natAbs (by norm_num [b32]; exact hn) (-2) (by norm_num [b32])
    (by norm_num [b32])
  rw [show (2 : Rat) ^ (-2 : Int) = 1 / 4 by norm_num, Nat.cast_natAbs, mul_one_div] at key
  rcases le_total 0 n with h | h
  · rwa [abs_of_nonneg h] at key
  · rw [abs_of_nonpos h, Int.cast_neg, neg_div] at key
    rw [← neg_neg ((n : Rat) / 4), F.round_neg, key]; rfl

theorem abs_sign {σ : Int} (hσ : σ = 1 ∨ σ = -1) : |(σ : Rat)| = 1 := by
  rcases hσ with rfl | rfl <;> norm_num

theorem ofInt_sign {σ : Int} (hσ : σ = 1 ∨ σ = -1) : F.ofInt b32 σ = .fin (σ : Rat) := by
  rcases hσ with rfl | rfl
  · rw [ofInt_one, Int.cast_one]
  · rw [ofInt_neg_one, Int.cast_neg, Int.cast_one]

theorem round_sign {σ : Int} (hσ : σ = 1 ∨ σ = -1) {x P : Rat} (h : F.round b32 x = .fin P) :
    F.round b32 ((σ : Rat) * x) = .fin ((σ : Rat) * P) := by
  rcases hσ with rfl | rfl
  · rw [Int.cast_one, one_mul, one_mul, h]
  · rw [Int.cast_neg, Int.cast_one, neg_one_mul, neg_one_mul, F.round_neg, h]; rfl

theorem trunc_near {P x e : Rat} (h : |P - x| ≤ e) : |((F.truncQ P : Int) : Rat) - x| < e + 1 :=
  calc |((F.truncQ P : Int) : Rat) - x| ≤ |((F.truncQ P : Int) : Rat) - P| + |P - x| := abs_sub_le _ _ _
    _ < e + 1 := by linarith [F.abs_truncQ_sub_lt P]

theorem fstep_mul (m : Nat) (hm : m ≤ 32768) :
    ∃ P : Rat, F.round b32 (32000000 / 524288 * (m : Rat)) = .fin P ∧
      0 ≤ P ∧ P < 2147483648 ∧ |P - 32000000 / 524288 * (m : Rat)| ≤ 1 / 8 := by
  rcases Nat.eq_zero_or_pos m with rfl | h0
  · exact ⟨0, by rw [Nat.cast_zero, mul_zero, round_zero], le_refl _, by norm_num, by norm_num⟩
  · have hm1 : (1 : Rat) ≤ (m : Rat) := by exact_mod_cast h0
    have hm2 : (m : Rat) ≤ 32768 := by exact_mod_cast hm
    obtain ⟨P, r, a, b⟩ := round32_near (32000000 / 524288 * (m : Rat)) (by linarith) (by linarith)
    exact ⟨P, r, by linarith, by linarith, abs_le.mpr ⟨by linarith, by linarith⟩⟩

/-- the ten LoRa bandwidths `sx127x_lora_get_bandwidth` can return -/
def LoraBw (bw : Nat) : Prop :=
  bw = 7800 ∨ bw = 10400 ∨ bw = 15600 ∨ bw = 20800 ∨ bw = 31250 ∨ bw = 41700 ∨ bw = 62500 ∨ bw = 125000 ∨ bw = 250000 ∨ bw = 500000

theorem LoraBw.bounds {bw : Nat} (h : LoraBw bw) : 7800 ≤ bw ∧ bw ≤ 500000 := by
  rcases h with h | h | h | h | h | h | h | h | h | h <;> subst h <;> decide

/-- the float expression `mag * FACTOR * bw / 500000.0f` for a magnitude below 2^24: three roundings,
    each within relative 2^-24, so the result is within relative 1/5000000 of the exact quotient
    (which uses the binary32 constant `FACTOR`, not yet `2^24 / 32 MHz`) -/
theorem lora_mag (m : Nat) (hm : m < 2 ^ 24) (bw : Nat) (hb1 : 7800 ≤ bw) (hb2 : bw ≤ 500000) :
    ∃ P : Rat,
      F.div b32 (F.mul b32 (F.mul b32 (F.ofNat b32 m) (.fin (8796093 / 16777216))) (.fin (bw : Rat))) (.fin 500000) = .fin P ∧
      (m : Rat) * (bw : Rat) * (8796093 / 16777216) / 500000 * (1 - 1 / 5000000) ≤ P ∧
      P ≤ (m : Rat) * (bw : Rat) * (8796093 / 16777216) / 500000 * (1 + 1 / 5000000) := by
  rcases Nat.eq_zero_or_pos m with rfl | h0
  · exact ⟨0, by simp only [F.ofNat_eq, F.mul_fin, F.div_fin _ _ (by norm_num : (500000 : Rat) ≠ 0), Nat.cast_zero,
      zero_mul, zero_div, round_zero], by norm_num, by norm_num⟩
  have hm1 : (1 : Rat) ≤ (m : Rat) := by exact_mod_cast h0
  have hm2 : (m : Rat) ≤ 16777216 := by exact_mod_cast le_of_lt hm
  have hb1' : (7800 : Rat) ≤ (bw : Rat) := by exact_mod_cast hb1
  have hb2' : (bw : Rat) ≤ 500000 := by exact_mod_cast hb2
  have hmb1 : 1 * 7800 ≤ (m : Rat) * (bw : Rat) := mul_le_mul hm1 hb1' (by norm_num) (by linarith)
  have hmb2 : (m : Rat) * (bw : Rat) ≤ 16777216 * 500000 := mul_le_mul hm2 hb2' (by linarith) (by norm_num)
  rw [ofNat32_exact m h0 hm, F.mul_fin]
  obtain ⟨P1, r1, a1, b1⟩ := round32_near ((m : Rat) * (8796093 / 16777216)) (by linarith) (by linarith)
  have a1' := mul_le_mul_of_nonneg_right a1 (show 0 ≤ (bw : Rat) by linarith)
  have b1' := mul_le_mul_of_nonneg_right b1 (show 0 ≤ (bw : Rat) by linarith)
  rw [r1, F.mul_fin]
  obtain ⟨P2, r2, a2, b2⟩ := round32_near (P1 * (bw : Rat)) (by linarith only [a1', hmb1]) (by linarith only [b1', hmb2])
  rw [r2, F.div_fin _ _ (by norm_num)]
  obtain ⟨P3, r3, a3, b3⟩ := round32_near (P2 / 500000) (by linarith only [a2, a1', hmb1]) (by linarith only [b2, b1', hmb2])
  exact ⟨P3, r3, by linarith only [a3, a2, a1', hmb1], by linarith only [b3, b2, b1', hmb1]⟩

/-- `sign * FSTEP * mag` converted to `int32_t`, for a sign and a 16-bit magnitude: both constant
    products are exact, the third is rounded once, then truncated -/
theorem fsk_error_val {σ : Int} (hσ : σ = 1 ∨ σ = -1) (m : Nat) (hm : m ≤ 32768) :
    ∃ v : Int, F.toSInt 32 (F.mul b32 (F.mul b32 (F.ofInt b32 σ) (.fin (32000000 / 524288))) (F.ofNat b32 m)) = some v ∧
      |(v : Rat) - ((σ * (m : Int) : Int) : Rat) * (32000000 / 524288)| < 9 / 8 := by
  obtain ⟨P, r, p0, p1, e⟩ := fstep_mul m hm
  have hb := abs_lt.mp (show |(σ : Rat) * P| < 2147483648 by rwa [abs_mul, abs_sign hσ, one_mul, abs_of_nonneg p0])
  rw [ofInt_sign hσ, F.mul_fin, round_sign hσ round_fstep, ofNat32 m (by omega), F.mul_fin, mul_assoc, round_sign hσ r]
  refine ⟨_, toSInt_fin 32 (by norm_num; linarith) (by norm_num; linarith), ?_⟩
  have := trunc_near (show |(σ : Rat) * P - (σ : Rat) * (32000000 / 524288 * (m : Rat))| ≤ 1 / 8 by
    rwa [← mul_sub, abs_mul, abs_sign hσ, one_mul])
  rw [show ((σ * (m : Int) : Int) : Rat) * (32000000 / 524288) = (σ : Rat) * (32000000 / 524288 * (m : Rat)) by
    push_cast; ring]
  linarith

/-- `sign * (mag * FACTOR * bw / 500000.0f)` converted to `int32_t` is defined for every magnitude
    below 2^24; for a 20-bit reading the value is below 2.8·10^5, the four roundings and the
    inexact constant together stay within 1/8, and the truncation adds less than 1 -/
theorem lora_error_val {σ : Int} (hσ : σ = 1 ∨ σ = -1) (m : Nat) (hm : m < 2 ^ 24) (bw : Nat) (hbw : LoraBw bw) :
    ∃ v : Int,
      F.toSInt 32 (F.mul b32 (F.ofInt b32 σ)
        (F.div b32 (F.mul b32 (F.mul b32 (F.ofNat b32 m) (.fin (8796093 / 16777216))) (.fin (bw : Rat))) (.fin 500000))) = some v ∧
      (m ≤ 524288 → |(v : Rat) - ((σ * (m : Int) : Int) : Rat) * (16777216 / 32000000) * (bw : Rat) / 500000| < 9 / 8) := by
  obtain ⟨hb1, hb2⟩ := hbw.bounds
  obtain ⟨P, hP, a, b⟩ := lora_mag m hm bw hb1 hb2
  have hm0 : (0 : Rat) ≤ (m : Rat) := Nat.cast_nonneg m
  have hm2 : (m : Rat) ≤ 16777216 := by exact_mod_cast le_of_lt hm
  have hb1' : (7800 : Rat) ≤ (bw : Rat) := by exact_mod_cast hb1
  have hb2' : (bw : Rat) ≤ 500000 := by exact_mod_cast hb2
  have hmb0 : 0 ≤ (m : Rat) * (bw : Rat) := mul_nonneg hm0 (by linarith)
  have hmb2 : (m : Rat) * (bw : Rat) ≤ 16777216 * 500000 := mul_le_mul hm2 hb2' (by linarith) (by norm_num)
  obtain ⟨R, hR, a', b'⟩ : ∃ R : Rat, F.round b32 P = .fin R ∧ P * (1 - 1 / 16777216) ≤ R ∧ R ≤ P * (1 + 1 / 16777216) := by
    rcases Nat.eq_zero_or_pos m with rfl | h0
    · obtain rfl : P = 0 := le_antisymm (by simpa using b) (by simpa using a)
      exact ⟨0, round_zero, by norm_num, by norm_num⟩
    · have : 1 * 7800 ≤ (m : Rat) * (bw : Rat) := mul_le_mul (by exact_mod_cast h0) hb1' (by norm_num) hm0
      exact round32_near P (by linarith only [a, this]) (by linarith only [b, hmb2])
  have hb := abs_lt.mp (show |(σ : Rat) * R| < 2147483648 by
    rw [abs_mul, abs_sign hσ, one_mul, abs_of_nonneg (by linarith only [a', a, hmb0])]
    linarith only [b', b, hmb2])
  rw [hP, ofInt_sign hσ, F.mul_fin, round_sign hσ hR]
  refine ⟨_, toSInt_fin 32 (by norm_num; linarith only [hb.1]) (by norm_num; linarith only [hb.2]), fun hm' => ?_⟩
  have hmb3 : (m : Rat) * (bw : Rat) ≤ 524288 * 500000 :=
    mul_le_mul (by exact_mod_cast hm') hb2' (by linarith) (by norm_num)
  have := trunc_near (show |(σ : Rat) * R - (σ : Rat) * ((m : Rat) * (bw : Rat) * (16777216 / 32000000) / 500000)| ≤ 1 / 8 by
    rw [← mul_sub, abs_mul, abs_sign hσ, one_mul, abs_le]
    constructor <;> linarith only [a', b', a, b, hmb0, hmb3])
  rw [show ((σ * (m : Int) : Int) : Rat) * (16777216 / 32000000) * (bw : Rat) / 500000 =
    (σ : Rat) * ((m : Rat) * (bw : Rat) * (16777216 / 32000000) / 500000) by push_cast; ring]
  linarith

/-- the packet-strength sum of the driver: an integer plus a quarter-integer, added in single
    precision and truncated to `int16_t` — exact -/
theorem rssiRefine_exact (r : Int) (hr1 : -1000 ≤ r) (hr2 : r ≤ 1000) (k : Int) (hk1 : -128 ≤ k) (hk2 : k ≤ 127) :
    rssiRefine r (.fin ((k : Rat) / 4)) = some (F.truncQ ((r : Rat) + (k : Rat) / 4)) := by
  have hr : F.ofInt b32 r = .fin (r : Rat) := by
    have := round_quarter (4 * r) (by omega)
    rwa [show (((4 * r : Int) : Rat) / 4) = (r : Rat) by push_cast; ring] at this
  have hs : (r : Rat) + (k : Rat) / 4 = ((4 * r + k : Int) : Rat) / 4 := by push_cast; ring
  have h1 : (-1000 : Rat) ≤ (r : Rat) := by exact_mod_cast hr1
  have h2 : (r : Rat) ≤ 1000 := by exact_mod_cast hr2
  have h3 : (-128 : Rat) ≤ (k : Rat) := by exact_mod_cast hk1
  have h4 : (k : Rat) ≤ 127 := by exact_mod_cast hk2
  unfold rssiRefine
  rw [hr, F.add_fin, hs, round_quarter _ (by omega), ← hs]
  exact toSInt_fin 16 (by norm_num; linarith) (by norm_num; linarith)

theorem foldl_min {ι γ : Type} (L : List ι) (t : ι → Rat) (c : ι → γ) (a0 : Rat) (c0 : γ) :
    (L.foldl (fun acc i => if t i < acc.1 then (t i, c i) else acc) (a0, c0)).1 ≤ a0 ∧
    (∀ j ∈ L, (L.foldl (fun acc i => if t i < acc.1 then (t i, c i) else acc) (a0, c0)).1 ≤ t j) ∧
    (L.foldl (fun acc i => if t i < acc.1 then (t i, c i) else acc) (a0, c0) = (a0, c0) ∨
      ∃ i ∈ L, L.foldl (fun acc i => if t i < acc.1 then (t i, c i) else acc) (a0, c0) = (t i, c i)) := by
  induction L generalizing a0 c0 with
  | nil => exact ⟨le_refl _, fun j hj => absurd hj List.not_mem_nil, Or.inl rfl⟩
  | cons x xs ih =>
    simp only [List.foldl_cons]
    by_cases hlt : t x < a0
    · rw [if_pos hlt]
      obtain ⟨h1, h2, h3⟩ := ih (t x) (c x)
      refine ⟨le_trans h1 (le_of_lt hlt), ?_, ?_⟩
      · intro j hj
        rcases List.mem_cons.mp hj with e | e
        · rw [e]; exact h1
        · exact h2 j e
      · rcases h3 with e | ⟨i, hi, e⟩
        · exact Or.inr ⟨x, List.mem_cons_self, e⟩
        · exact Or.inr ⟨i, List.mem_cons_of_mem _ hi, e⟩
    · rw [if_neg hlt]
      obtain ⟨h1, h2, h3⟩ := ih a0 c0
      refine ⟨h1, ?_, ?_⟩
      · intro j hj
        rcases List.mem_cons.mp hj with e | e
        · rw [e]; exact le_trans h1 (not_lt.mp hlt)
        · exact h2 j e
      · rcases h3 with e | ⟨i, hi, e⟩
        · exact Or.inl e
        · exact Or.inr ⟨i, List.mem_cons_of_mem _ hi, e⟩

theorem round_any (x : Rat) (hx : |x| ≤ (2 : Rat) ^ (100 : Int)) :
    F.round b32 x = .fin (rnd 24 (-126) x) ∧ |rnd 24 (-126) x - x| ≤ |x| * (1 / 16777216) + (2 : Rat) ^ (-(150 : Int)) := by
  have key : ∀ y : Rat, 0 < y → y ≤ (2 : Rat) ^ (100 : Int) →
      F.round b32 y = .fin (rnd 24 (-126) y) ∧
      |rnd 24 (-126) y - y| ≤ y * (1 / 16777216) + (2 : Rat) ^ (-(150 : Int)) := by
    intro y hy hy2
    have h := rnd_err 24 (-126) y hy
    have hb : (2 : Rat) ^ (ulpExp 24 (-126) y) / 2 ≤ y * (1 / 16777216) + (2 : Rat) ^ (-(150 : Int)) := by
      -- the ulp is that of the binade of `y`, or in the subnormal range the smallest subnormal
      unfold ulpExp
      rcases le_total (ilog2 y - ((24 : Nat) - 1 : Int)) ((-126 : Int) - ((24 : Nat) - 1 : Int)) with hle | hle
      · rw [max_eq_right hle, show (2 : Rat) ^ ((-126 : Int) - ((24 : Nat) - 1 : Int)) / 2 = (2 : Rat) ^ (-(150 : Int)) by norm_num]
        linarith [mul_pos hy (show (0 : Rat) < 1 / 16777216 by norm_num)]
      · rw [max_eq_left hle, show ilog2 y - ((24 : Nat) - 1 : Int) = ilog2 y + (-23 : Int) by push_cast; ring,
          zpow_add₀ (by norm_num : (2 : Rat) ≠ 0)]
        have := (ilog2_spec y hy).1
        have := two_zpow_pos (-(150 : Int))
        norm_num
        linarith
    have a := abs_le.mp (le_trans h hb)
    have tiny : (2 : Rat) ^ (-(150 : Int)) ≤ 1 := by norm_num
    have big : (2 : Rat) ^ (100 : Int) * 2 + 1 < (2 : Rat) ^ ((127 : Int) + 1) := by norm_num
    exact ⟨round_fin b32 y (by show rnd 24 (-126) y < (2 : Rat) ^ ((127 : Int) + 1); linarith) (rnd_nonneg _ _ hy), le_trans h hb⟩
  rcases lt_trichotomy x 0 with h | rfl | h
  · obtain ⟨k1, k2⟩ := key (-x) (by linarith) (by rwa [abs_of_neg h] at hx)
    rw [← neg_neg x, F.round_neg b32 (-x), rnd_neg _ _ (-x), k1, neg_sub_neg, abs_sub_comm, abs_neg, abs_of_pos (by linarith : 0 < -x)]
    exact ⟨rfl, k2⟩
  · rw [rnd_zero]
    exact ⟨round_zero, by simp⟩
  · rw [abs_of_pos h] at hx ⊢
    exact key x h hx

end Sx
