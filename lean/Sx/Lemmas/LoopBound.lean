import Sx.Lemmas.Safe
import Sx.Lemmas.Struct
import Sx.Lemmas.Mem
/-
  The byte-wise drain loop of `sx127x_fsk_ook_read_payload_batch` is bounded by the packet buffer,
  not by the chip: every iteration stores one byte and the loop leaves as soon as the buffer is
  full.  In the model the loop carries fuel; here: with more fuel than the buffer has bytes, no
  path of the interrupt handler — whatever chip and bus answer, within what `Prog.Safe` admits — runs
  out of it.  (`Struct` is imported for the members of `model_body`, which `safe_walk` looks into.)
-/
namespace Sx
open Sx.Model DM

def FuelBad (u : UB) : Prop := u = .fuel

def LI (cap : Nat) (h : Handle) : Prop := h.packet.length = cap

abbrev SafeL (cap : Nat) (x : DM α) : Prop := SafeI FuelBad (fun _ => True) (LI cap) x

variable {cap : Nat}

@[safe] theorem l_packetStore (i : Nat) (v : UInt8) : SafeL cap (packetStore i v) := by
  unfold packetStore
  apply SafeI_getH_bind; intro h hh
  apply SafeI_ite
  · intro _; exact SafeI_setH _ (by show (h.packet.wr i v).length = cap; rw [Mem.length_wr]; exact hh)
  · intro _; exact SafeI_ub _ (fun e => by cases e)

@[safe] theorem l_packetCopy (off : Nat) (d : List UInt8) : SafeL cap (packetCopy off d) := by
  unfold packetCopy
  apply SafeI_getH_bind; intro h hh
  apply SafeI_ite
  · intro _; exact SafeI_setH _ (by show (h.packet.wrs off d).length = cap; rw [Mem.length_wrs]; exact hh)
  · intro _; exact SafeI_ub _ (fun e => by cases e)

theorem l_drainLoop (hc16 : cap ≤ 65535) (fuel : Nat) (h : Handle) (hh : LI cap h) (hf : cap - h.received.toNat < fuel) : (drainLoop fuel h).Safe FuelBad (fun _ => True) (LI cap) := by
  refine safe_drainLoop (fun n h => LI cap h ∧ cap - h.received.toNat < n) (fun _ _ hj => hj.1)
    (fun _ hj => absurd hj.2 (Nat.not_lt_zero _)) ?_ fuel h ⟨hh, hf⟩
  intro n h v ⟨hh, hf⟩ hidx
  refine ⟨by show (h.packet.wr h.received.toNat v).length = cap; rw [Mem.length_wr]; exact hh, ?_⟩
  -- one byte more is stored: `received < cap ≤ 65535`, so the counter does not wrap
  have hcap : h.received.toNat < cap := by rw [← hh]; exact hidx
  have hadd : (h.received + 1).toNat = (h.received.toNat + 1) % 65536 := by
    rw [UInt16.toNat_add]; rfl
  show cap - (h.received + 1).toNat < n
  rw [hadd, Nat.mod_eq_of_lt (by omega)]; omega

theorem l_drain (hc16 : cap ≤ 65535) (fuel : Nat) (hf : cap < fuel) : SafeL cap (drainLoop fuel) :=
  ⟨fun h hh => l_drainLoop hc16 fuel h hh (by omega)⟩

theorem l_batch (hc16 : cap ≤ 65535) (fuel : Nat) (hf : cap < fuel) (b : Bool) : SafeL cap (fskOokReadPayloadBatch fuel b) := by
  unfold fskOokReadPayloadBatch
  repeat (first | with_reducible exact l_drain hc16 fuel hf | safe_walk1)

theorem l_fskIrq (hc16 : cap ≤ 65535) (fuel : Nat) (hf : cap < fuel) : SafeL cap (fskOokHandleInterrupt fuel) := by
  unfold fskOokHandleInterrupt
  repeat (first | with_reducible exact l_batch hc16 fuel hf _ | safe_walk1)

@[safe] theorem l_loraRead : SafeL cap loraRxReadPayload := by unfold loraRxReadPayload; safe_walk
@[safe] theorem l_loraGuard (e : UInt16) : SafeL cap (loraReadGuard e) := by unfold loraReadGuard; safe_walk
@[safe] theorem l_setFrequency (f : UInt64) : SafeL cap (setFrequency f) := by unfold setFrequency; safe_walk
@[safe] theorem l_loraIrq : SafeL cap loraHandleInterrupt := by unfold loraHandleInterrupt; safe_walk

/-- **one invocation of the interrupt handler never runs out of loop fuel**, for every answer of
    chip and bus that `Prog.Safe` admits — a FIFO that never reports empty included —, once the fuel
    exceeds the size of the packet buffer: its only loop is bounded by the buffer -/
theorem l_irq (hc16 : cap ≤ 65535) (fuel : Nat) (hf : cap < fuel) : SafeL cap (handleInterrupt fuel) := by
  unfold handleInterrupt
  repeat (first | with_reducible exact l_fskIrq hc16 fuel hf | safe_walk1)

end Sx
