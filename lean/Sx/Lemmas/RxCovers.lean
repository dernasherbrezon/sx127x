import Sx.Lemmas.RxSteps
import Sx.Lemmas.Flags2
import Sx.Lemmas.Exec
/-
  The receive environment `rxE` (Sx/Lemmas/RxFifo.lean) covers the uncached interpreter over the
  chip model for operations without events or faults inside them (`rx_covers`), and the chip's
  environment events `rxByte` / `rxEnd` between operations are the environment's arrivals
  (`env_rxByte`, `env_rxEnd`).  What this checks is the *content* of `rxE`: the flag semantics, the
  FIFO read semantics including the clearing of PayloadReady, the flush, the configuration
  registers.  Arrivals inside a running handler are covered by `rxE` itself but not by this
  refinement (their admissibility — the FIFO never fills — is a property of the run, not of the
  schedule).  The cached build follows by C02.
-/
namespace Sx
open Mem Chip

/-- the chip after the host has read `n ≥ 1` bytes out of the FSK/OOK FIFO (`n ≤` its content):
    PayloadReady and CrcOk are cleared when that empties the FIFO -/
def Chip.fifoTake (c : Chip) (n : Nat) : Chip :=
  if n = 0 then c else
  if c.fifo.drop n = [] then { c with fifo := [], fsk := c.fsk.wr 0x3f (c.fsk.rd 0x3f &&& 0xf9) }
  else { c with fifo := c.fifo.drop n }

theorem read_fifo_fsk (c : Chip) (v : UInt8) (rest : List UInt8) (hl : c.isLora = false) (hf : c.fifo = v :: rest) :
    c.read 0 = (v, c.fifoTake 1) := by
  unfold Chip.read Chip.fifoTake
  simp only [show (0 % 128) = 0 from rfl, ↓reduceIte, hl, Bool.false_eq_true, hf, List.drop_succ_cons, List.drop_zero,
    show ¬((1:Nat) = 0) by decide]
  cases rest with
  | nil => simp
  | cons w ws => simp

theorem readN_fifo_fsk : ∀ (n : Nat) (c : Chip), c.isLora = false → n ≤ c.fifo.length →
    c.readN 0 n = (c.fifo.take n, c.fifoTake n) := by
  intro n
  induction n with
  | zero => intro c _ _; simp [Chip.readN, Chip.fifoTake]
  | succ n ih =>
    intro c hl hn
    cases hf : c.fifo with
    | nil => rw [hf] at hn; simp at hn
    | cons v rest =>
      rw [hf] at hn
      simp only [List.length_cons] at hn
      simp only [Chip.readN, ↓reduceIte]
      rw [read_fifo_fsk c v rest hl hf]
      have hl1 : (c.fifoTake 1).isLora = false := by
        unfold Chip.fifoTake; simp only [show ¬((1:Nat) = 0) by decide, ↓reduceIte]; split <;> exact hl
      have hf1 : (c.fifoTake 1).fifo = rest := by
        unfold Chip.fifoTake; simp only [show ¬((1:Nat) = 0) by decide, ↓reduceIte, hf, List.drop_succ_cons, List.drop_zero]
        split
        · rename_i he; exact he.symm
        · rfl
      rw [ih (c.fifoTake 1) hl1 (by rw [hf1]; omega)]
      simp only [hf1, List.take_succ_cons, Prod.mk.injEq, true_and]
      by_cases hn0 : n = 0
      · subst hn0; simp [Chip.fifoTake]
      · have hrne : rest ≠ [] := by intro he; rw [he] at hn; simp at hn; exact hn0 hn
        unfold Chip.fifoTake
        simp only [hn0, ↓reduceIte, show ¬(n + 1 = 0) by omega, show ¬((1:Nat) = 0) by decide, hf, List.drop_succ_cons, List.drop_zero, hrne]
/-- the chip while receiving in FSK/OOK packet mode, as the ghost state describes it -/
structure RxChip (c : Chip) (g : RxG) : Prop where
  fifo : c.fifo = g.fifo
  fsk : c.isLora = false
  thr : c.fsk.rd 0x35 &&& 0x3f = 31
  ready : c.fsk.rd 0x3f &&& 0x04 ≠ 0 ↔ g.ready = true
  crc : c.fsk.rd 0x3f &&& 0x02 ≠ 0 ↔ g.crcFlag = true
  sent : c.fsk.rd 0x3f &&& 0x08 = 0
  ovr : c.fsk.rd 0x3f &&& 0x10 = 0
  cfg1 : c.fsk.rd 0x30 = g.cfg1
  cfg2 : c.fsk.rd 0x31 = g.cfg2
  plen : c.fsk.rd 0x32 = g.plen
  room : g.fifo.length ≤ 63
  len : c.fsk.length = 128

theorem rx_flags2_ok {c : Chip} {g : RxG} (h : RxChip c g) : RxFlagsOk c.flags2 g := by
  have hthr : (c.fsk.rd 0x35 &&& 0x3f).toNat = 31 := by rw [h.thr]; rfl
  have hroom := h.room
  refine ⟨?_, ?_, ?_, ?_, ?_, ?_, Decidable.byContradiction fun hx => ?_⟩
  · rw [flags2_stored c rfl rfl rfl rfl]; exact h.ready
  · rw [flags2_stored c rfl rfl rfl rfl]; exact h.crc
  · rw [flags2_stored c rfl rfl rfl rfl]; exact h.sent
  · rw [flags2_stored c rfl rfl rfl rfl]; exact h.ovr
  · rw [flags2_level, hthr, h.fifo]
  · rw [flags2_empty, h.fifo]; exact List.length_eq_zero_iff
  · have := (flags2_full c).mp hx
    rw [h.fifo] at this; omega

/-- `RxChip` reads the chip through its FIFO, its page bit and five cells of the FSK page, and the
    ghost state through the FIFO, the two stored flags and the three configuration bytes -/
theorem RxChip.congr {c c' : Chip} {g g' : RxG} (h : RxChip c g) (hf : c'.fifo = g'.fifo) (hroom : g'.fifo.length ≤ 63)
    (hc : c'.isLora = c.isLora ∧ c'.fsk.length = c.fsk.length ∧ ∀ a ∈ [0x35, 0x3f, 0x30, 0x31, 0x32], c'.fsk.rd a = c.fsk.rd a)
    (hg : g'.ready = g.ready ∧ g'.crcFlag = g.crcFlag ∧ g'.cfg1 = g.cfg1 ∧ g'.cfg2 = g.cfg2 ∧ g'.plen = g.plen) :
    RxChip c' g' := by
  obtain ⟨hl, hlen, hrd⟩ := hc
  obtain ⟨hr, hcf, h1, h2, h3⟩ := hg
  have h3f := hrd 0x3f (by decide)
  exact ⟨hf, hl.trans h.fsk, by rw [hrd 0x35 (by decide)]; exact h.thr, by rw [h3f, hr]; exact h.ready,
    by rw [h3f, hcf]; exact h.crc, by rw [h3f]; exact h.sent, by rw [h3f]; exact h.ovr,
    by rw [hrd 0x30 (by decide), h1]; exact h.cfg1, by rw [hrd 0x31 (by decide), h2]; exact h.cfg2,
    by rw [hrd 0x32 (by decide), h3]; exact h.plen, hroom, hlen.trans h.len⟩

theorem and_f9_04 (x : UInt8) : (x &&& 0xf9) &&& 0x04 = 0 := and_mask_off x rfl
theorem and_f9_02 (x : UInt8) : (x &&& 0xf9) &&& 0x02 = 0 := and_mask_off x rfl
theorem and_f9_08 (x : UInt8) : (x &&& 0xf9) &&& 0x08 = x &&& 0x08 := and_mask_keep x rfl
theorem and_f9_10 (x : UInt8) : (x &&& 0xf9) &&& 0x10 = x &&& 0x10 := and_mask_keep x rfl

theorem RxChip.store {c : Chip} {g : RxG} (h : RxChip c g) (f : List UInt8) (hf : f.length ≤ 63) (s' : UInt8) (r cf : Bool)
    (h4 : s' &&& 0x04 ≠ 0 ↔ r = true) (h2 : s' &&& 0x02 ≠ 0 ↔ cf = true) (h8 : s' &&& 0x08 = 0) (h10 : s' &&& 0x10 = 0) :
    RxChip { c with fifo := f, fsk := c.fsk.wr 0x3f s' } { g with fifo := f, ready := r, crcFlag := cf } := by
  have hrd : (c.fsk.wr 0x3f s').rd 0x3f = s' := rd_wr_same _ _ _ (by rw [h.len]; decide)
  refine ⟨rfl, h.fsk, ?_, ?_, ?_, ?_, ?_, ?_, ?_, ?_, hf, by simp [h.len]⟩
  · show (c.fsk.wr 0x3f _).rd 0x35 &&& 0x3f = 31; rw [rd_wr_ne _ _ _ _ (by decide)]; exact h.thr
  · show (c.fsk.wr 0x3f _).rd 0x3f &&& 0x04 ≠ 0 ↔ r = true; rw [hrd]; exact h4
  · show (c.fsk.wr 0x3f _).rd 0x3f &&& 0x02 ≠ 0 ↔ cf = true; rw [hrd]; exact h2
  · show (c.fsk.wr 0x3f _).rd 0x3f &&& 0x08 = 0; rw [hrd]; exact h8
  · show (c.fsk.wr 0x3f _).rd 0x3f &&& 0x10 = 0; rw [hrd]; exact h10
  · show (c.fsk.wr 0x3f _).rd 0x30 = g.cfg1; rw [rd_wr_ne _ _ _ _ (by decide)]; exact h.cfg1
  · show (c.fsk.wr 0x3f _).rd 0x31 = g.cfg2; rw [rd_wr_ne _ _ _ _ (by decide)]; exact h.cfg2
  · show (c.fsk.wr 0x3f _).rd 0x32 = g.plen; rw [rd_wr_ne _ _ _ _ (by decide)]; exact h.plen

theorem RxChip.cleared {c : Chip} {g : RxG} (h : RxChip c g) (f : List UInt8) (hf : f.length ≤ 63) :
    RxChip { c with fifo := f, fsk := c.fsk.wr 0x3f (c.fsk.rd 0x3f &&& 0xf9) } { g with fifo := f, ready := false, crcFlag := false } :=
  h.store f hf _ false false (by rw [and_f9_04]; simp) (by rw [and_f9_02]; simp) (by rw [and_f9_08]; exact h.sent) (by rw [and_f9_10]; exact h.ovr)

theorem RxChip.take {c : Chip} {g : RxG} (h : RxChip c g) (n : Nat) (hn : n ≤ g.fifo.length) :
    RxChip (c.fifoTake n) (g.take n) := by
  unfold Chip.fifoTake RxG.take
  by_cases h0 : n = 0
  · rw [if_pos h0, if_pos h0]; exact h
  rw [if_neg h0, if_neg h0, if_pos hn, h.fifo]
  dsimp only
  have hroom : (g.fifo.drop n).length ≤ 63 := by have := h.room; simp; omega
  by_cases he : g.fifo.drop n = []
  · rw [if_pos he, if_pos he]
    exact (h.cleared [] (by simp)).congr he.symm hroom ⟨rfl, rfl, fun _ _ => rfl⟩ ⟨rfl, rfl, rfl, rfl, rfl⟩
  · rw [if_neg he, if_neg he]
    exact h.congr rfl hroom ⟨rfl, rfl, fun _ _ => rfl⟩ ⟨rfl, rfl, rfl, rfl, rfl⟩

-- RegIrqFlags2 through the bits 0x04 PayloadReady, 0x02 CrcOk, 0x08 PacketSent, 0x10 FifoOverrun: after a write that
-- clears FifoOverrun and flushes (`&&& 0xef`, then `&&& 0xf9`: `Chip.write`, `fifoFlush`), and after one that clears LowBat
theorem fl_a (x : UInt8) : ((x &&& 0xef) &&& 0xf9) &&& 0x04 = 0 := and_mask_off _ rfl
theorem fl_b (x : UInt8) : ((x &&& 0xef) &&& 0xf9) &&& 0x02 = 0 := and_mask_off _ rfl
theorem fl_c (x : UInt8) : ((x &&& 0xef) &&& 0xf9) &&& 0x08 = x &&& 0x08 := (and_mask_keep _ rfl).trans (and_mask_keep x rfl)
theorem fl_d (x : UInt8) : ((x &&& 0xef) &&& 0xf9) &&& 0x10 = 0 := (and_mask_keep _ rfl).trans (and_mask_off x rfl)
theorem fe_4 (x : UInt8) : (x &&& 0xfe) &&& 0x04 = x &&& 0x04 := and_mask_keep x rfl
theorem fe_2 (x : UInt8) : (x &&& 0xfe) &&& 0x02 = x &&& 0x02 := and_mask_keep x rfl
theorem fe_8 (x : UInt8) : (x &&& 0xfe) &&& 0x08 = x &&& 0x08 := and_mask_keep x rfl
theorem fe_10 (x : UInt8) : (x &&& 0xfe) &&& 0x10 = x &&& 0x10 := and_mask_keep x rfl

/-- a write to RegIrqFlags2: FifoOverrun flushes the FIFO (PayloadReady and CrcOk go with it),
    LowBat is write-one-to-clear, everything else is read-only -/
theorem RxChip.write3f {c : Chip} {g : RxG} (h : RxChip c g) (v : UInt8) :
    RxChip (c.write 0x3f v) (if v &&& 0x10 ≠ 0 then g.flush else g) := by
  have h128 : 0x3f < c.fsk.length := by rw [h.len]; decide
  simp only [Chip.write, h.fsk, show (0x3f % 128) = 0x3f from rfl, show ¬(0x3f = 0) by decide, ↓reduceIte,
    Bool.false_eq_true, false_and, Bool.not_false, true_and, show ¬(0x3f = 0x3e) by decide]
  by_cases hv : v &&& 0x10 ≠ 0
  · rw [if_pos hv, if_pos hv]
    unfold Chip.fifoFlush RxG.flush
    simp only [rd_wr_same _ _ _ h128, wr_wr_same]
    by_cases h1 : v &&& 0x01 ≠ 0
    · rw [if_pos h1]
      exact h.store [] (by simp) _ false false (by rw [fe_4, fl_a]; simp) (by rw [fe_2, fl_b]; simp)
        (by rw [fe_8, fl_c]; exact h.sent) (by rw [fe_10, fl_d])
    · rw [if_neg h1]
      exact h.store [] (by simp) _ false false (by rw [fl_a]; simp) (by rw [fl_b]; simp) (by rw [fl_c]; exact h.sent) (by rw [fl_d])
  · rw [if_neg hv, if_neg hv]
    by_cases h1 : v &&& 0x01 ≠ 0
    · rw [if_pos h1]
      have := h.store g.fifo h.room (c.fsk.rd 0x3f &&& 0xfe) g.ready g.crcFlag (by rw [fe_4]; exact h.ready) (by rw [fe_2]; exact h.crc)
        (by rw [fe_8]; exact h.sent) (by rw [fe_10]; exact h.ovr)
      exact this.congr h.fifo h.room ⟨rfl, rfl, fun _ _ => rfl⟩ ⟨rfl, rfl, rfl, rfl, rfl⟩
    · rw [if_neg h1]; exact h

structure RxWorld (p0 : List UInt8) (o0 : Bool) (w : World) (g : RxG) : Prop where
  chip : RxChip w.chip g
  nosched : w.sched = []
  nofault : w.faults = []
  clean : g.faulted = false
  /-- nothing arrives inside an operation without scheduled events -/
  pend : g.pending = p0
  ov : g.over = o0

theorem RxG.take_rest (g : RxG) (n : Nat) :
    (g.take n).pending = g.pending ∧ (g.take n).over = g.over ∧ (g.take n).faulted = g.faulted := by
  unfold RxG.take
  split
  · exact ⟨rfl, rfl, rfl⟩
  split
  · dsimp only; split <;> exact ⟨rfl, rfl, rfl⟩
  · exact ⟨rfl, rfl, rfl⟩

def rxAbs (p0 : List UInt8) (o0 : Bool) (w : World) (g : RxG) : Prop := g.poison = true ∨ g.ended = true ∨ RxWorld p0 o0 w g

theorem rxR_dead {g : RxG} (hd : ¬g.live) (q : Req) (a : Ans) : rxE.R g q a g := by
  show rxR g q a g
  unfold rxR
  rw [if_pos (dead_of_not_live hd)]

theorem rxAbs_dead {p0 o0} {g : RxG} (hd : ¬g.live) (w : World) : rxAbs p0 o0 w g :=
  (dead_of_not_live hd).elim Or.inl fun h => Or.inr (Or.inl h)

theorem rxAbs_live {p0 o0 w} {g : RxG} (hl : g.live) (ha : rxAbs p0 o0 w g) : RxWorld p0 o0 w g :=
  of_live_abs hl ha

theorem RxWorld.step {p0 o0 w w'} {g g' : RxG} (h : RxWorld p0 o0 w g) (hc : RxChip w'.chip g')
    (hs : w'.sched = w.sched) (hf : w'.faults = w.faults)
    (hcl : g'.faulted = g.faulted) (hp : g'.pending = g.pending) (ho : g'.over = g.over) : rxAbs p0 o0 w' g' :=
  Or.inr (Or.inr ⟨hc, hs.trans h.nosched, hf.trans h.nofault, hcl.trans h.clean, hp.trans h.pend, ho.trans h.ov⟩)

theorem RxWorld.plain {p0 o0 w} {g : RxG} (h : RxWorld p0 o0 w g) : w.Plain := ⟨h.nosched, h.nofault⟩

/-- an operation without scheduled events ends on the chip it left -/
theorem rx_after {p0 o0 w g} (hw : RxWorld p0 o0 w g) :
    RxChip ({ w with chip := w.sched.foldl (fun ch e => if e.1 ≥ w.xfer then e.2.apply ch else ch) w.chip,
                     sched := [], faults := [] } : World).chip g := by
  show RxChip (w.sched.foldl _ w.chip) g
  rw [hw.nosched]
  exact hw.chip

theorem rxR_quiet {g : RxG} (hl : g.live) (hroom : g.fifo.length ≤ 63) (q : Req) (a : Ans) (g' : RxG) (hne : a.noErr)
    (hm : rxAnswer g g q a g') : rxE.R g q a g' :=
  (rxR_live hl q a g').mpr (Or.inl ⟨hne, g, RxG.Adv.refl hroom, hm⟩)

/-- **the uncached interpreter over the chip model is an instance of the receive environment**,
    for operations without events or faults inside them (arrivals between operations are
    `env_rxByte` / `env_rxEnd` below) -/
theorem rx_covers (p0 : List UInt8) (o0 : Bool) (onCb : CbEvent → Handle → World → Outcome Handle) : Covers rxE false onCb (rxAbs p0 o0) := by
  refine .of_req (fun q {w g r w'} ha hs => ?_) fun _ _ => ⟨_, rfl, Or.inr (Or.inl rfl)⟩
  by_cases hl : g.live
  case neg => exact ⟨g, rxR_dead hl _ _, rxAbs_dead hl _⟩
  have hw := rxAbs_live hl ha
  have hc := hw.chip
  -- a request foreign to the receive path
  have poison : ∀ {w' : World} (a : Ans), a.noErr → rxAnswer g g q a { g with poison := true } →
      ∃ g', rxE.R g q a g' ∧ rxAbs p0 o0 w' g' :=
    fun a hne h => ⟨_, rxR_quiet hl hc.room _ _ _ hne h, Or.inl rfl⟩
  -- without cache, schedule and faults every request is its bus transfer, which succeeds
  cases q <;>
    simp only [Shadow.step, Shadow.sread_false, Shadow.rread_false, Shadow.swrite_false, Shadow.bwrite_false,
      busRead_plain hw.plain, busReadBuf_plain hw.plain, busWrite_plain hw.plain, busWriteBuf_plain hw.plain,
      Step.ok.injEq] at hs <;>
    obtain ⟨rfl, rfl⟩ := hs
  case sread reg n =>
    exact poison _ trivial rfl
  case rawbread reg n =>
    exact poison _ trivial rfl
  case bwrite reg d =>
    exact poison _ trivial rfl
  case bread reg n =>
    by_cases hreg : reg = 0
    · subst hreg
      by_cases hn : n ≤ g.fifo.length
      · have hn' : n ≤ w.chip.fifo.length := by rw [hw.chip.fifo]; exact hn
        rw [readN_fifo_fsk n w.chip hw.chip.fsk hn']
        refine ⟨g.take n, rxR_quiet hl hw.chip.room _ _ _ trivial ?_,
          hw.step (hw.chip.take n hn) rfl rfl (g.take_rest n).2.2 (g.take_rest n).1 (g.take_rest n).2.1⟩
        exact rxAnswer_bread.mpr ⟨rfl, by rw [hw.chip.fifo, List.length_take]; exact Nat.min_eq_left hn, fun _ => by rw [hw.chip.fifo]⟩
      · refine ⟨g.take n, rxR_quiet hl hw.chip.room _ _ _ trivial ?_, ?_⟩
        · exact rxAnswer_bread.mpr ⟨rfl, readN_length _ _ _, fun h => absurd h hn⟩
        · left
          unfold RxG.take
          rw [if_neg (by omega), if_neg hn]
    · refine poison _ trivial ?_
      unfold rxAnswer
      simp only [Req.ans, hreg, ↓reduceIte]
  case swrite reg d =>
    by_cases h3f : reg = 0x3f ∧ d.length = 1
    · obtain ⟨hreg, hlen⟩ := h3f
      subst hreg
      obtain ⟨v, rfl⟩ := List.length_eq_one_iff.mp hlen
      refine ⟨if v &&& 0x10 ≠ 0 then g.flush else g, rxR_quiet hl hw.chip.room _ _ _ trivial ?_,
        hw.step ?_ rfl rfl (by split <;> rfl) (by split <;> rfl) (by split <;> rfl)⟩
      · exact rxAnswer_ack.mpr rfl
      · show RxChip (w.chip.writeN 0x3f [v]) _
        rw [writeN_one]
        exact hw.chip.write3f v
    · by_cases h3e : reg = 0x3e ∧ d.length = 1
      · obtain ⟨hreg, hlen⟩ := h3e
        subst hreg
        obtain ⟨v, rfl⟩ := List.length_eq_one_iff.mp hlen
        refine ⟨g, rxR_quiet hl hw.chip.room _ _ _ trivial ?_, hw.step ?_ rfl rfl rfl rfl rfl⟩
        · exact rxAnswer_ack1.mpr rfl
        · show RxChip (w.chip.writeN 0x3e [v]) g
          rw [writeN_one]
          have hwr : w.chip.write 0x3e v = { w.chip with fsk := w.chip.fsk.wr 0x3e (w.chip.fsk.rd 0x3e &&& ~~~ (v &&& 0x0b)) } := by
            simp [Chip.write, hc.fsk]
          rw [hwr]
          exact hc.congr hc.fifo hc.room
            ⟨rfl, by simp, fun a ha => rd_wr_ne _ _ _ _ (by rintro rfl; revert ha; decide)⟩ ⟨rfl, rfl, rfl, rfl, rfl⟩
      · refine poison _ trivial ?_
        unfold rxAnswer
        simp only [Req.ans, h3f, h3e, ↓reduceIte]
  case rread reg =>
    -- a read of any register but the FIFO leaves the chip as it is
    have same : ∀ (g' : RxG), RxChip w.chip g' → g'.faulted = g.faulted → g'.pending = g.pending → g'.over = g.over → ∀ (a : Nat), a % 128 ≠ 0 →
        rxAbs p0 o0 { w with xfer := w.xfer + 1, chip := (w.chip.readN a 1).2, bus := .r a 1 (.ok (be32 (w.chip.readN a 1).1)) :: w.bus } g' :=
      fun g' hg' hcl hpe hov a ha0 => hw.step (by rw [readN_one _ _ ha0]; exact hg') rfl rfl hcl hpe hov
    -- a configuration register whose value the ghost state holds
    have const : ∀ (a : Nat) (x : UInt8), a % 128 = a → a ≠ 0 → inPage a = true → a ≠ 0x3f → w.chip.fsk.rd a = x →
        (∀ v, v = x → rxAnswer g g (.rread a) (.u8 (.ok v)) g) →
        ∃ g', rxE.R g (.rread a) ((Req.rread a).ans (Except.map UInt32.toUInt8 (.ok (be32 (w.chip.readN a 1).1)))) g' ∧
          rxAbs p0 o0 { w with xfer := w.xfer + 1, chip := (w.chip.readN a 1).2, bus := .r a 1 (.ok (be32 (w.chip.readN a 1).1)) :: w.bus } g' := by
      intro a x hm h0 hp h3f hx hans
      refine ⟨g, rxR_quiet hl hc.room _ _ _ trivial (hans _ ?_), same g hc rfl rfl rfl a (by rw [hm]; exact h0)⟩
      rw [readN_one _ a (by rw [hm]; exact h0)]
      simp only [hm, be32_single, peek_fsk _ _ hc.fsk hp h3f]
      exact hx
    by_cases h3f : reg = 0x3f
    · subst h3f
      refine ⟨{ g with irq := (be32 (w.chip.readN 0x3f 1).1).toUInt8 }, rxR_quiet hl hc.room _ _ _ trivial ?_,
        same { g with irq := (be32 (w.chip.readN 0x3f 1).1).toUInt8 } (hc.congr hc.fifo hc.room ⟨rfl, rfl, fun _ _ => rfl⟩ ⟨rfl, rfl, rfl, rfl, rfl⟩) rfl rfl rfl 0x3f (by decide)⟩
      refine rxAnswer_flags.mpr ⟨rfl, ?_⟩
      rw [readN_one _ 0x3f (by decide)]
      simp only [show (0x3f % 128) = 0x3f from rfl, be32_single, peek_flags2 _ hc.fsk]
      exact rx_flags2_ok hc
    by_cases h00 : reg = 0
    · subst h00
      by_cases h1 : 1 ≤ g.fifo.length
      · have h1' : 1 ≤ w.chip.fifo.length := by rw [hc.fifo]; exact h1
        rw [readN_fifo_fsk 1 w.chip hc.fsk h1']
        refine ⟨g.take 1, rxR_quiet hl hc.room _ _ _ trivial ?_,
          hw.step (hc.take 1 h1) rfl rfl (g.take_rest 1).2.2 (g.take_rest 1).1 (g.take_rest 1).2.1⟩
        refine rxAnswer_fifo.mpr ⟨rfl, fun _ => ?_⟩
        rw [hc.fifo]
        cases hf : g.fifo with
        | nil => rw [hf] at h1; simp at h1
        | cons x xs => simp [be32_single]
      · refine ⟨g.take 1, rxR_quiet hl hc.room _ _ _ trivial ?_, ?_⟩
        · exact rxAnswer_fifo.mpr ⟨rfl, fun h => absurd h h1⟩
        · left
          unfold RxG.take
          rw [if_neg (by decide), if_neg h1]
    by_cases h30 : reg = 0x30
    · subst h30; exact const 0x30 _ rfl (by decide) (by decide) (by decide) hc.cfg1 fun _ hv => rxAnswer_cfg1.mpr ⟨rfl, hv⟩
    by_cases h31 : reg = 0x31
    · subst h31; exact const 0x31 _ rfl (by decide) (by decide) (by decide) hc.cfg2 fun _ hv => rxAnswer_cfg2.mpr ⟨rfl, hv⟩
    by_cases h32 : reg = 0x32
    · subst h32; exact const 0x32 _ rfl (by decide) (by decide) (by decide) hc.plen fun _ hv => rxAnswer_plen.mpr ⟨rfl, hv⟩
    by_cases h3e : reg = 0x3e ∨ reg = 0x11
    · refine ⟨g, rxR_quiet hl hc.room _ _ _ trivial ?_, same g hc rfl rfl rfl reg (by rcases h3e with e | e <;> rw [e] <;> decide)⟩
      unfold rxAnswer
      simp only [Req.ans, Except.map, h3f, h00, h30, h31, h32, h3e, ↓reduceIte]
    · refine poison _ trivial ?_
      unfold rxAnswer
      simp only [Req.ans, Except.map, h3f, h00, h30, h31, h32, h3e, ↓reduceIte]

-- the same bits after the end of a packet (`Env.apply`, `rxEnd`): PayloadReady set, CrcOk set or cleared
theorem or4_4 (x : UInt8) : (x ||| 0x04) &&& 0x04 ≠ 0 := or_mask_on x (by decide)
theorem or42_4 (x : UInt8) : ((x ||| 0x04) ||| 0x02) &&& 0x04 ≠ 0 := by rw [or_mask_off (x ||| 0x04) (m := 0x02) rfl]; exact or4_4 x
theorem or42_2 (x : UInt8) : ((x ||| 0x04) ||| 0x02) &&& 0x02 ≠ 0 := or_mask_on _ (by decide)
theorem or42_8 (x : UInt8) : ((x ||| 0x04) ||| 0x02) &&& 0x08 = x &&& 0x08 := (or_mask_off _ rfl).trans (or_mask_off x rfl)
theorem or42_10 (x : UInt8) : ((x ||| 0x04) ||| 0x02) &&& 0x10 = x &&& 0x10 := (or_mask_off _ rfl).trans (or_mask_off x rfl)
theorem or4fd_4 (x : UInt8) : ((x ||| 0x04) &&& 0xfd) &&& 0x04 ≠ 0 := by rw [and_mask_keep (x ||| 0x04) (m := 0xfd) rfl]; exact or4_4 x
theorem or4fd_2 (x : UInt8) : ((x ||| 0x04) &&& 0xfd) &&& 0x02 = 0 := and_mask_off _ rfl
theorem or4fd_8 (x : UInt8) : ((x ||| 0x04) &&& 0xfd) &&& 0x08 = x &&& 0x08 := (and_mask_keep _ rfl).trans (or_mask_off x rfl)
theorem or4fd_10 (x : UInt8) : ((x ||| 0x04) &&& 0xfd) &&& 0x10 = x &&& 0x10 := (and_mask_keep _ rfl).trans (or_mask_off x rfl)

/-- the demodulator pushes the next byte of the frame into a FIFO that is not full -/
theorem env_rxByte {c : Chip} {g : RxG} (h : RxChip c g) (b : UInt8) (rest : List UInt8)
    (hp : g.pending = b :: rest) (hroom : g.fifo.length ≤ 62) :
    RxChip (Env.apply c (.rxByte b)) (g.arrive 1 false) ∧ g.Adm 1 := by
  have hlt : ¬c.fifo.length ≥ 64 := by rw [h.fifo]; omega
  have ha : g.arrive 1 false = { g with fifo := g.fifo ++ [b], pending := rest } := by
    unfold RxG.arrive; simp [hp]
  rw [ha]
  refine ⟨?_, by rw [hp]; simp, by omega⟩
  show RxChip (if c.fifo.length ≥ 64 then _ else { c with fifo := c.fifo ++ [b] }) _
  rw [if_neg hlt]
  exact h.congr (by show c.fifo ++ [b] = g.fifo ++ [b]; rw [h.fifo]) (by show (g.fifo ++ [b]).length ≤ 63; simp; omega)
    ⟨rfl, rfl, fun _ _ => rfl⟩ ⟨rfl, rfl, rfl, rfl, rfl⟩

/-- the demodulator signals the end of the packet (CrcAutoClearOff, as the driver configures it) -/
theorem env_rxEnd {c : Chip} {g : RxG} (h : RxChip c g) (hp : g.pending = []) (ho : g.over = false)
    (hauto : g.cfg1 &&& 0x08 ≠ 0) :
    RxChip (Env.apply c (.rxEnd g.crcGood)) (g.arrive 0 true) := by
  have ha : g.arrive 0 true = { g with over := true, ready := true, crcFlag := g.crcOn && g.crcGood } := by
    unfold RxG.arrive; simp [hp, ho]
  rw [ha]
  have hcfg : c.fsk.rd 0x30 = g.cfg1 := h.cfg1
  show RxChip (let crcOn := c.fsk.rd 0x30 &&& 0x10 ≠ 0
               let autoClearOff := c.fsk.rd 0x30 &&& 0x08 ≠ 0
               if crcOn ∧ !g.crcGood ∧ !autoClearOff then c.fifoFlush
               else
                 let f := c.fsk.rd 0x3f ||| 0x04
                 let f := if crcOn ∧ g.crcGood then f ||| 0x02 else f &&& 0xfd
                 { c with fsk := c.fsk.wr 0x3f f }) _
  dsimp only
  rw [hcfg]
  have hnf : ¬(g.cfg1 &&& 0x10 ≠ 0 ∧ (!g.crcGood) = true ∧ (!decide (g.cfg1 &&& 0x08 ≠ 0)) = true) := by
    intro ⟨_, _, h3⟩
    simp [hauto] at h3
  rw [if_neg hnf]
  have hon : g.crcOn = decide (g.cfg1 &&& 0x10 ≠ 0) := by
    unfold RxG.crcOn
    by_cases hz : g.cfg1 &&& 0x10 = 0
    · simp [hz]
    · simp [hz, bne]
  by_cases hc : g.cfg1 &&& 0x10 ≠ 0 ∧ g.crcGood = true
  · rw [if_pos hc]
    have := h.store g.fifo h.room ((c.fsk.rd 0x3f ||| 0x04) ||| 0x02) true (g.crcOn && g.crcGood)
      (by simp [or42_4]) (by rw [hon]; simp [or42_2, hc.1, hc.2]) (by rw [or42_8]; exact h.sent) (by rw [or42_10]; exact h.ovr)
    exact this.congr h.fifo h.room ⟨rfl, rfl, fun _ _ => rfl⟩ ⟨rfl, rfl, rfl, rfl, rfl⟩
  · rw [if_neg hc]
    have hcf : (g.crcOn && g.crcGood) = false := by
      rw [hon]
      by_cases h1 : g.cfg1 &&& 0x10 ≠ 0
      · have : g.crcGood = false := by cases hx : g.crcGood <;> simp_all
        simp [this]
      · simp [h1]
    have := h.store g.fifo h.room ((c.fsk.rd 0x3f ||| 0x04) &&& 0xfd) true (g.crcOn && g.crcGood)
      (by simp [or4fd_4]) (by rw [hcf, or4fd_2]; simp) (by rw [or4fd_8]; exact h.sent) (by rw [or4fd_10]; exact h.ovr)
    exact this.congr h.fifo h.room ⟨rfl, rfl, fun _ _ => rfl⟩ ⟨rfl, rfl, rfl, rfl, rfl⟩
end Sx
