import Sx.RunP
import Sx.Model.Driver
import Sx.Lemmas.Chip
import Sx.Lemmas.Bytes
/-
  A small weakest-precondition calculus for driver programs under plain execution (`runP`):
  `wp x h s Q` says that running `x` from handle `h` and state `s` ends without undefined
  behaviour in a return value, handle and state satisfying `Q`.
-/
namespace Sx
open DM

theorem runP_bind (p : Prog α) (f : α → Prog β) (s : PState) :
    runP (p.bind f) s = match runP p s with
      | .done a s' => runP (f a) s'
      | .ub u s' => .ub u s' := by
  induction p generalizing s with
  | ret a => simp [Prog.bind, runP]
  | ub u => simp [Prog.bind, runP]
  | sread reg n k ih => simp only [Prog.bind, runP]; exact ih _ _
  | rread reg k ih => simp only [Prog.bind, runP]; exact ih _ _
  | swrite reg d k ih => simp only [Prog.bind, runP]; exact ih _ _
  | bwrite reg d k ih => simp only [Prog.bind, runP]; exact ih _ _
  | bread reg n k ih => simp only [Prog.bind, runP]; exact ih _ _
  | rawbread reg n k ih => simp only [Prog.bind, runP]; exact ih _ _
  | callback e h k ih => simp only [Prog.bind, runP]; exact ih _ _

def wp (x : DM α) (h : Handle) (s : PState) (Q : Except Code α → Handle → PState → Prop) : Prop :=
  match runP (x h) s with
  | .done (r, h') s' => Q r h' s'
  | .ub _ _ => False

theorem wp_elim {x : DM α} {h : Handle} {s : PState} {Q : Except Code α → Handle → PState → Prop}
    (hw : wp x h s Q) {r : Except Code α} {h' : Handle} {s' : PState} (hr : runP (x h) s = .done (r, h') s') : Q r h' s' := by
  unfold wp at hw; rw [hr] at hw; exact hw

theorem wp_pure (a : α) (h s Q) : wp (pure a : DM α) h s Q ↔ Q (.ok a) h s := Iff.rfl
theorem wp_fail (c : Code) (h s) (Q : Except Code α → Handle → PState → Prop) : wp (fail c : DM α) h s Q ↔ Q (.error c) h s := Iff.rfl
theorem wp_ub (u : UB) (h s) (Q : Except Code α → Handle → PState → Prop) : wp (DM.ub u : DM α) h s Q ↔ False := Iff.rfl
theorem wp_getH (h s Q) : wp getH h s Q ↔ Q (.ok h) h s := Iff.rfl
theorem wp_setH (h' h s Q) : wp (setH h') h s Q ↔ Q (.ok ()) h' s := Iff.rfl
theorem wp_modH (f h s Q) : wp (modH f) h s Q ↔ Q (.ok ()) (f h) s := Iff.rfl
theorem wp_cb (e h s Q) : wp (cb e) h s Q ↔ Q (.ok ()) h { s with cbs := e :: s.cbs } := Iff.rfl

theorem wp_rread (reg h s Q) : wp (rread reg) h s Q ↔
    Q (.ok (be32 (s.chip.readN reg 1).1).toUInt8) h
      { s with chip := (s.chip.readN reg 1).2, bus := .r reg 1 (.ok (be32 (s.chip.readN reg 1).1)) :: s.bus } := Iff.rfl
theorem wp_sread (reg n h s Q) : wp (sread reg n) h s Q ↔
    Q (.ok (be32 (s.chip.readN reg n).1)) h
      { s with chip := (s.chip.readN reg n).2, bus := .r reg n (.ok (be32 (s.chip.readN reg n).1)) :: s.bus } := Iff.rfl
theorem wp_swrite (reg d h s Q) : wp (swrite reg d) h s Q ↔
    Q (.ok ()) h { s with chip := s.chip.writeN reg d, bus := .w reg d (.ok ()) :: s.bus } := Iff.rfl
theorem wp_bwrite (reg d h s Q) : wp (bwrite reg d) h s Q ↔
    Q (.ok ()) h { s with chip := s.chip.writeN reg d, bus := .wb reg d (.ok ()) :: s.bus } := Iff.rfl
theorem wp_bread (reg n h s Q) : wp (bread reg n) h s Q ↔
    Q (.ok (s.chip.readN reg n).1) h
      { s with chip := (s.chip.readN reg n).2, bus := .rb reg n (.ok (s.chip.readN reg n).1) :: s.bus } := Iff.rfl
theorem wp_rawbread (reg n h s Q) : wp (rawbread reg n) h s Q ↔
    Q (.ok (s.chip.readN reg n).1) h
      { s with chip := (s.chip.readN reg n).2, bus := .rb reg n (.ok (s.chip.readN reg n).1) :: s.bus } := Iff.rfl

theorem wp_bind (x : DM α) (f : α → DM β) (h s) (Q : Except Code β → Handle → PState → Prop) :
    wp (x >>= f) h s Q ↔ wp x h s (fun r h' s' => match r with
      | .ok a => wp (f a) h' s' Q
      | .error c => Q (.error c) h' s') := by
  show (match runP (((x h).bind _)) s with | .done (r, h') s' => Q r h' s' | .ub _ _ => False) ↔ _
  rw [runP_bind]
  unfold wp
  cases hx : runP (x h) s with
  | ub u s' => simp
  | done a s' =>
    obtain ⟨r, h'⟩ := a
    cases r with
    | ok v => simp only; exact Iff.rfl
    | error c => simp [runP]

theorem wp_attempt (x : DM α) (h s) (Q : Except Code (Except Code α) → Handle → PState → Prop) :
    wp (attempt x) h s Q ↔ wp x h s (fun r h' s' => Q (.ok r) h' s') := by
  unfold wp attempt
  rw [runP_bind]
  cases hx : runP (x h) s with
  | ub u s' => simp
  | done a s' => obtain ⟨r, h'⟩ := a; simp [runP]

theorem wp_mono (x : DM α) (h s) (Q Q' : Except Code α → Handle → PState → Prop)
    (hq : ∀ r h' s', Q r h' s' → Q' r h' s') (hw : wp x h s Q) : wp x h s Q' := by
  unfold wp at *
  cases hx : runP (x h) s with
  | ub u s' => rw [hx] at hw; exact hw
  | done a s' => rw [hx] at hw; obtain ⟨r, h'⟩ := a; exact hq _ _ _ hw

theorem wp_ite (c : Prop) [Decidable c] (x y : DM α) (h s Q) :
    wp (if c then x else y) h s Q ↔ (if c then wp x h s Q else wp y h s Q) := by
  split <;> rfl

open Sx.Model Mem Chip

theorem wp_appendRegister_lora (reg : Nat) (v m : UInt8) (h : Handle) (c : Chip) (bus : List BusEv) (cbs : List CbEvent)
    (Q : Except Code Unit → Handle → PState → Prop)
    (hl : c.isLora = true) (ha : reg < 128) (hp : inPage reg = true) (h12 : reg ≠ 0x12) :
    wp (appendRegister reg v m) h ⟨c, bus, cbs⟩ Q ↔
      Q (.ok ()) h ⟨{ c with lora := c.lora.wr reg ((c.lora.rd reg &&& m) ||| v) },
        .w reg [(c.lora.rd reg &&& m) ||| v] (.ok ()) :: .r reg 1 (.ok (be32 [c.lora.rd reg])) :: bus, cbs⟩ := by
  unfold appendRegister
  rw [wp_bind, wp_rread]
  simp only [readN_one_lora _ _ hl ha hp, be32_single]
  rw [wp_swrite]
  simp only [writeN_one, write_lora _ _ _ hl ha hp h12]

theorem wp_checkModulation (m : Nat) (h : Handle) (s : PState) (Q : Except Code Unit → Handle → PState → Prop) :
    wp (checkModulation m) h s Q ↔
      (if h.activeModem ≠ m then Q (.error Gen.SX127X_ERR_INVALID_STATE) h s else Q (.ok ()) h s) := by
  unfold checkModulation
  rw [wp_bind, wp_getH]
  simp only
  rw [wp_ite, wp_fail, wp_pure]

theorem wp_checkFskOok (h : Handle) (s : PState) (Q : Except Code Unit → Handle → PState → Prop) :
    wp checkFskOok h s Q ↔
      (if h.activeModem ≠ Gen.SX127x_MODULATION_FSK ∧ h.activeModem ≠ Gen.SX127x_MODULATION_OOK
       then Q (.error Gen.SX127X_ERR_INVALID_STATE) h s else Q (.ok ()) h s) := by
  unfold checkFskOok
  rw [wp_bind, wp_getH]
  simp only
  rw [wp_ite, wp_fail, wp_pure]

theorem wp_api_unit (x : DM Unit) (h : Handle) (s : PState) (Q : Except Code Unit → Handle → PState → Prop)
    (hw : wp x h s Q) :
    wp (do x; pure Out.none) h s (fun r h' s' => match r with
      | .ok o => o = Out.none ∧ Q (.ok ()) h' s'
      | .error e => Q (.error e) h' s') := by
  rw [wp_bind]
  apply wp_mono _ _ _ _ _ _ hw
  intro r h' s' hq
  cases r with
  | ok u => simp only [wp_pure]; exact ⟨by trivial, hq⟩
  | error e => exact hq

end Sx
