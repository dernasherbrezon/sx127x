import Sx.Lemmas.FailFast
import Sx.Lemmas.Mem
/-
  What the packet readers leave in the handle when they report success (used by C08 for the
  length handed to the receive callback).  All statements are `Prog.fwp` facts: they hold for every
  answer of chip and bus, values and failures alike.
-/
namespace Sx
open Sx.Model DM

/-- a conditional proposition, branch by branch (what `split` does, without rewriting the goal) -/
theorem if_intro {c : Prop} [Decidable c] {A B : Prop} (ha : c → A) (hb : ¬c → B) : if c then A else B := by
  split
  · exact ha ‹_›
  · exact hb ‹_›

/-- `read_payload_batch` learns the length: the only way to report success without a known packet
    format is with the length still zero -/
theorem header_post (h : Handle) (f : Bool) :
    (readPayloadHeader h).fwp f (fun _ rh => rh.1 = .ok none → rh.2.expected = 0) := by
  unfold readPayloadHeader fskOokIsAddressFiltered fskOokReadFixedPacketLength
  simp only [fwp_bind', fwp_getH, fwp_rread, fwp_bread, fwp_modH, fwp_pure, fwp_ite]
  split
  · intro e; cases e
  · rename_i he
    have he' : h.expected = 0 := Decidable.not_not.mp he
    simp [he']

theorem drain_keeps (fuel : Nat) (h : Handle) (f : Bool) :
    (drainLoop fuel h).fwp f (fun _ rh => rh.2.expected = h.expected ∧ rh.2.packet.length = h.packet.length) := by
  induction fuel generalizing h f with
  | zero => unfold drainLoop; trivial
  | succ n ih =>
    unfold drainLoop packetStore
    simp only [fwp_bind', fwp_getH, fwp_rread, fwp_modH, fwp_pure, fwp_ite, fwp_setH, fwp_fail, fwp_ub]
    have hw : ∀ v, (h.packet.wr h.received.toNat v).length = h.packet.length := fun v => by simp [Mem.wr]
    refine if_intro (fun _ => ?_) (fun _ => ?_)
    · exact ⟨trivial, trivial⟩
    · refine ⟨fun v => ?_, fun c => ⟨trivial, trivial⟩⟩
      refine if_intro (fun _ => ?_) (fun _ => ?_)
      · refine ⟨fun v1 => ?_, fun c => ⟨trivial, hw v⟩⟩
        refine if_intro (fun _ => ?_) (fun _ => ?_)
        · refine Prog.fwp_mono _ _ _ _ ?_ (ih _ f)
          intro f' rh hq
          exact ⟨hq.1, hq.2.trans (hw v)⟩
        · exact ⟨trivial, hw v⟩
      · trivial

theorem batch_post (fuel : Nat) (b : Bool) (h : Handle) :
    (fskOokReadPayloadBatch fuel b h).fwp false
      (fun _ rh => rh.1 = .ok () → rh.2.expected.toNat ≤ rh.2.packet.length ∨ rh.2.expected = rh.2.received) := by
  unfold fskOokReadPayloadBatch
  refine fwp_bind_of (header_post h false) (fun f' hdr h1 hq => ?_) (fun _ _ _ _ e => by cases e)
  cases hdr with
  | none =>
    intro _
    left
    have : h1.expected = 0 := hq rfl
    show h1.expected.toNat ≤ _
    rw [this]; exact Nat.zero_le _
  | some consumed =>
      dsimp only
      unfold packetCopy
      simp only [fwp_bind', fwp_getH, fwp_bread, fwp_modH, fwp_pure, fwp_ite, fwp_setH, fwp_fail, fwp_ub]
      -- everything received, or a packet that does not fit the buffer
      refine if_intro (fun he _ => Or.inr he) fun _ => if_intro (fun _ e => by cases e) fun hfit => ?_
      have hfit' : h1.expected.toNat ≤ h1.packet.length := Nat.le_of_not_gt hfit
      -- a batch of half the FIFO, the rest of a packet that fits the FIFO, or the byte-wise drain
      refine if_intro (fun _ => if_intro (fun _ => if_intro (fun _ => ?_) fun _ => trivial) fun _ _ => Or.inl hfit')
        fun _ => if_intro (fun _ => ?_) fun _ => ?_
      · refine ⟨fun v => if_intro (fun _ _ => Or.inl ?_) fun _ => trivial, fun c e => by cases e⟩
        rw [Mem.length_wrs]; exact hfit'
      · rw [if_pos hfit']
        exact ⟨fun v => if_intro (fun _ _ => by right; trivial) fun _ => trivial, fun c e => by cases e⟩
      · refine Prog.fwp_mono _ _ _ _ ?_ (drain_keeps fuel h1 f')
        intro f2 rh hk _
        left
        rw [hk.1, hk.2]; exact hfit'

/-- stated for both uses of the guarded LoRa packet read: the length a success records (C08), and the
    handle a failed transfer leaves (C11) — restored only if the guard was given the handle's own length -/
theorem loraGuard_run (e : UInt16) (h : Handle) :
    (loraReadGuard e h).fwp false (fun f' rh =>
      (rh.1 = .ok () → rh.2.expected.toNat ≤ rh.2.packet.length) ∧ (f' = true → e = h.expected → rh.2 = h)) := by
  unfold loraReadGuard loraRxReadPayload checkModulation packetCopy
  simp only [fwp_bind', fwp_attempt, fwp_getH, fwp_rread, fwp_swrite, fwp_bread, fwp_modH, fwp_pure, fwp_ite, fwp_setH, fwp_fail, fwp_ub]
  have key : ∀ v : UInt8, v.toUInt16.toNat = v.toNat := fun v => by simp
  -- after a failed transfer the guard restores the one field the read has touched
  have restored : (e = h.expected → ({ h with expected := e } : Handle) = h) ↔ True :=
    iff_true_intro fun he => by subst he; rfl
  simp only [key, Mem.length_wrs, reduceCtorEq, false_implies, implies_true, and_true, true_implies, Bool.false_eq_true,
    restored]
  refine if_intro (fun _ => ?_) (fun _ => ?_)
  · trivial
  · -- the length is read from the chip or taken from the handle; from there on the two cases agree
    refine if_intro (fun _ v => ?_) (fun _ => ?_)
    all_goals
      refine if_intro (fun _ => ?_) (fun _ => ?_)
      · trivial
      · rename_i hv
        intro _
        refine if_intro (fun _ => ?_) (fun _ => ?_)
        · intro d; split
          · exact Nat.le_of_not_gt hv
          · trivial
        · trivial

theorem loraGuard_post (e : UInt16) (h : Handle) :
    (loraReadGuard e h).fwp false (fun _ rh => rh.1 = .ok () → rh.2.expected.toNat ≤ rh.2.packet.length) :=
  Prog.fwp_mono _ _ _ _ (fun _ _ hq => hq.1) (loraGuard_run e h)

end Sx
