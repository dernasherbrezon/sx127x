import Sx.Api
import Sx.Lemmas.Struct
/-
  Structure of driver programs with respect to failing transfers (C11).

  * `Prog.FailFast ex p`: at every request of `p` (except those in `ex`) the continuation for a
    failed transfer is `return code;` — no further request, the code handed to the caller.
  * `Prog.fwp p f Q`: a weakest precondition with a ghost flag "a transfer has failed"; after a
    failure the receive callback is not invoked.  `DM.FS`, `DM.NR`, `DM.OKH`, `DM.KeepH` and `DM.TX`
    are instances of it.
-/
namespace Sx

variable {α β : Type}

def Prog.FailFast (ex : Req → Prop) : Prog (Except Code α × Handle) → Prop
  | .ret _ => True
  | .ub _ => True
  | .sread reg n k => (ex (.sread reg n) ∨ ∀ c, ∃ h, k (.error c) = .ret (.error c, h)) ∧ ∀ r, (k r).FailFast ex
  | .rread reg k => (ex (.rread reg) ∨ ∀ c, ∃ h, k (.error c) = .ret (.error c, h)) ∧ ∀ r, (k r).FailFast ex
  | .swrite reg d k => (ex (.swrite reg d) ∨ ∀ c, ∃ h, k (.error c) = .ret (.error c, h)) ∧ ∀ r, (k r).FailFast ex
  | .bwrite reg d k => (ex (.bwrite reg d) ∨ ∀ c, ∃ h, k (.error c) = .ret (.error c, h)) ∧ ∀ r, (k r).FailFast ex
  | .bread reg n k => (ex (.bread reg n) ∨ ∀ c, ∃ h, k (.error c) = .ret (.error c, h)) ∧ ∀ r, (k r).FailFast ex
  | .rawbread reg n k => (ex (.rawbread reg n) ∨ ∀ c, ∃ h, k (.error c) = .ret (.error c, h)) ∧ ∀ r, (k r).FailFast ex
  | .callback _ _ k => ∀ h, (k h).FailFast ex

def Prog.IsErrPass (g : Except Code α × Handle → Prog (Except Code β × Handle)) : Prop :=
  ∀ c h, g (.error c, h) = .ret (.error c, h)

theorem Prog.FailFast_req_bind {γ : Type} {P : Prop} {k : Except Code γ → Prog (Except Code α × Handle)}
    {g : Except Code α × Handle → Prog (Except Code β × Handle)} (he : Prog.IsErrPass g)
    (h : P ∨ ∀ c, ∃ h, k (.error c) = .ret (.error c, h)) :
    P ∨ ∀ c, ∃ h, (k (.error c)).bind g = .ret (.error c, h) :=
  h.imp_right fun h c => by obtain ⟨h', e⟩ := h c; exact ⟨h', by rw [e]; exact he c h'⟩

theorem Prog.FailFast_bind {ex : Req → Prop} {p : Prog (Except Code α × Handle)}
    {g : Except Code α × Handle → Prog (Except Code β × Handle)}
    (hp : p.FailFast ex) (hg : ∀ a, (g a).FailFast ex) (he : Prog.IsErrPass g) : (p.bind g).FailFast ex := by
  induction p with
  | ret a => exact hg a
  | ub u => trivial
  | sread reg n k ih | rread reg k ih | swrite reg d k ih | bwrite reg d k ih | bread reg n k ih | rawbread reg n k ih =>
      exact ⟨FailFast_req_bind he hp.1, fun r => ih r (hp.2 r)⟩
  | callback e h k ih => exact fun h' => ih h' (hp h')

theorem Prog.FailFast_mono {ex ex' : Req → Prop} (hx : ∀ q, ex q → ex' q) {p : Prog (Except Code α × Handle)}
    (hp : p.FailFast ex) : p.FailFast ex' := by
  induction p with
  | ret a => trivial
  | ub u => trivial
  | sread reg n k ih | rread reg k ih | swrite reg d k ih | bwrite reg d k ih | bread reg n k ih | rawbread reg n k ih =>
      exact ⟨hp.1.imp (hx _) id, fun r => ih r (hp.2 r)⟩
  | callback e h k ih => exact fun h' => ih h' (hp h')

theorem Prog.FailFast_of_All {γ : Type} {ex : Req → Prop} {p : Prog γ} {g : γ → Prog (Except Code β × Handle)}
    (hp : p.All ex) (hg : ∀ a, (g a).FailFast ex) : (p.bind g).FailFast ex := by
  induction p with
  | ret a => exact hg a
  | ub u => trivial
  | sread reg n k ih | rread reg k ih | swrite reg d k ih | bwrite reg d k ih | bread reg n k ih | rawbread reg n k ih =>
      exact ⟨Or.inl hp.1, fun r => ih r (hp.2 r)⟩
  | callback e h k ih => exact fun h' => ih h' (hp h')

structure DM.FF (ex : Req → Prop) (x : DM α) : Prop where
  ff : ∀ h, (x h).FailFast ex

namespace DM
variable {ex : Req → Prop}

theorem FF_pure (a : α) : FF ex (pure a : DM α) := ⟨fun _ => trivial⟩
theorem FF_pure' (a : α) : FF ex (pure' a : DM α) := ⟨fun _ => trivial⟩
theorem FF_fail (c : Code) : FF ex (fail c : DM α) := ⟨fun _ => trivial⟩
theorem FF_ub (u : UB) : FF ex (DM.ub u : DM α) := ⟨fun _ => trivial⟩
theorem FF_getH : FF ex getH := ⟨fun _ => trivial⟩
theorem FF_setH (h : Handle) : FF ex (setH h) := ⟨fun _ => trivial⟩
theorem FF_modH (f : Handle → Handle) : FF ex (modH f) := ⟨fun _ => trivial⟩
theorem FF_cb (e : CbEvent) : FF ex (cb e) := ⟨fun _ _ => trivial⟩
theorem FF_sread (reg n : Nat) : FF ex (sread reg n) := ⟨fun h => ⟨Or.inr fun _ => ⟨h, rfl⟩, fun _ => trivial⟩⟩
theorem FF_rread (reg : Nat) : FF ex (rread reg) := ⟨fun h => ⟨Or.inr fun _ => ⟨h, rfl⟩, fun _ => trivial⟩⟩
theorem FF_swrite (reg : Nat) (d : List UInt8) : FF ex (swrite reg d) := ⟨fun h => ⟨Or.inr fun _ => ⟨h, rfl⟩, fun _ => trivial⟩⟩
theorem FF_bwrite (reg : Nat) (d : List UInt8) : FF ex (bwrite reg d) := ⟨fun h => ⟨Or.inr fun _ => ⟨h, rfl⟩, fun _ => trivial⟩⟩
theorem FF_bread (reg n : Nat) : FF ex (bread reg n) := ⟨fun h => ⟨Or.inr fun _ => ⟨h, rfl⟩, fun _ => trivial⟩⟩
theorem FF_rawbread (reg n : Nat) : FF ex (rawbread reg n) := ⟨fun h => ⟨Or.inr fun _ => ⟨h, rfl⟩, fun _ => trivial⟩⟩
theorem FF_ofExcept (r : Except Code α) : FF ex (ofExcept r) := by cases r <;> exact ⟨fun _ => trivial⟩

theorem FF_bind {x : DM α} {f : α → DM β} (hx : FF ex x) (hf : ∀ a, FF ex (f a)) : FF ex (x >>= f) := by
  constructor
  intro h
  show ((x h).bind _).FailFast ex
  apply Prog.FailFast_bind (hx.ff h)
  · intro ⟨r, h'⟩
    cases r with
    | ok a => exact (hf a).ff h'
    | error c => trivial
  · intro c h'; rfl

/-- a best-effort call: all its requests are exempt and its status is handed to the caller as a value -/
theorem FF_attempt_of_all {x : DM α} (hx : DM.All ex x) : FF ex (attempt x) := by
  constructor
  intro h
  show ((x h).bind _).FailFast ex
  exact Prog.FailFast_of_All (hx.all h) (fun _ => trivial)

theorem FF_ite {c : Prop} [Decidable c] {x y : DM α} (hx : FF ex x) (hy : FF ex y) : FF ex (if c then x else y) := by
  split <;> assumption

end DM

/-- one step of the traversal for `FF`; as in `dm_step` the rules are matched by head symbol only -/
macro "ff_step" : tactic => `(tactic| with_reducible first
  | intro _
  | apply DM.FF_bind
  | apply DM.FF_ite
  | exact DM.FF_pure _ | exact DM.FF_pure' _ | exact DM.FF_fail _ | exact DM.FF_ub _ | exact DM.FF_getH
  | exact DM.FF_setH _ | exact DM.FF_modH _ | exact DM.FF_cb _
  | exact DM.FF_sread _ _ | exact DM.FF_rread _ | exact DM.FF_swrite _ _ | exact DM.FF_bwrite _ _
  | exact DM.FF_bread _ _ | exact DM.FF_rawbread _ _ | exact DM.FF_ofExcept _
  | assumption)

/-
  `Prog.fwp p f Q`: for all answers of chip and bus (values and failures), `p` never invokes the
  receive callback once a transfer has failed (`f` = a transfer has failed already), and every
  way `p` can end satisfies `Q f' a`, where `f'` says whether a transfer failed. -/

def Prog.fwp : Prog α → Bool → (Bool → α → Prop) → Prop
  | .ret a, f, Q => Q f a
  | .ub _, _, _ => True
  | .sread _ _ k, f, Q => (∀ v, (k (.ok v)).fwp f Q) ∧ ∀ c, (k (.error c)).fwp true Q
  | .rread _ k, f, Q => (∀ v, (k (.ok v)).fwp f Q) ∧ ∀ c, (k (.error c)).fwp true Q
  | .swrite _ _ k, f, Q => (k (.ok ())).fwp f Q ∧ ∀ c, (k (.error c)).fwp true Q
  | .bwrite _ _ k, f, Q => (k (.ok ())).fwp f Q ∧ ∀ c, (k (.error c)).fwp true Q
  | .bread _ _ k, f, Q => (∀ v, (k (.ok v)).fwp f Q) ∧ ∀ c, (k (.error c)).fwp true Q
  | .rawbread _ _ k, f, Q => (∀ v, (k (.ok v)).fwp f Q) ∧ ∀ c, (k (.error c)).fwp true Q
  | .callback e _ k, f, Q => (f = true → ∀ d n, e ≠ .rx d n) ∧ ∀ h, (k h).fwp f Q

theorem Prog.fwp_bind (p : Prog α) (g : α → Prog β) (f : Bool) (Q : Bool → β → Prop) :
    (p.bind g).fwp f Q ↔ p.fwp f (fun f' a => (g a).fwp f' Q) := by
  induction p generalizing f with
  | ret a => exact Iff.rfl
  | ub u => exact Iff.rfl
  | sread reg n k ih | rread reg k ih | bread reg n k ih | rawbread reg n k ih =>
      exact and_congr (forall_congr' fun v => ih _ _) (forall_congr' fun c => ih _ _)
  | swrite reg d k ih | bwrite reg d k ih => exact and_congr (ih _ _) (forall_congr' fun c => ih _ _)
  | callback e h k ih => exact and_congr Iff.rfl (forall_congr' fun h' => ih _ _)

theorem Prog.fwp_mono (p : Prog α) (f : Bool) (Q Q' : Bool → α → Prop) (hq : ∀ f a, Q f a → Q' f a)
    (hp : p.fwp f Q) : p.fwp f Q' := by
  induction p generalizing f with
  | ret a => exact hq _ _ hp
  | ub u => trivial
  | sread reg n k ih | rread reg k ih | bread reg n k ih | rawbread reg n k ih =>
      exact ⟨fun v => ih _ _ (hp.1 v), fun c => ih _ _ (hp.2 c)⟩
  | swrite reg d k ih | bwrite reg d k ih => exact ⟨ih _ _ hp.1, fun c => ih _ _ (hp.2 c)⟩
  | callback e h k ih => exact ⟨hp.1, fun h' => ih _ _ (hp.2 h')⟩

theorem Prog.fwp_and (p : Prog α) (f : Bool) (Q Q' : Bool → α → Prop) (h1 : p.fwp f Q) (h2 : p.fwp f Q') :
    p.fwp f (fun f' a => Q f' a ∧ Q' f' a) := by
  induction p generalizing f with
  | ret a => exact ⟨h1, h2⟩
  | ub u => trivial
  | sread reg n k ih | rread reg k ih | bread reg n k ih | rawbread reg n k ih =>
      exact ⟨fun v => ih _ _ (h1.1 v) (h2.1 v), fun c => ih _ _ (h1.2 c) (h2.2 c)⟩
  | swrite reg d k ih | bwrite reg d k ih => exact ⟨ih _ _ h1.1 h2.1, fun c => ih _ _ (h1.2 c) (h2.2 c)⟩
  | callback e h0 k ih => exact ⟨h1.1, fun h' => ih _ _ (h1.2 h') (h2.2 h')⟩

theorem Prog.fwp_any_start (p : Prog α) (hp : p.fwp true (fun _ _ => True)) (f : Bool) : p.fwp f (fun _ _ => True) := by
  induction p generalizing f with
  | ret a => trivial
  | ub u => trivial
  | sread reg n k ih | rread reg k ih | bread reg n k ih | rawbread reg n k ih =>
      exact ⟨fun v => ih _ (hp.1 v) _, fun c => hp.2 c⟩
  | swrite reg d k ih | bwrite reg d k ih => exact ⟨ih _ hp.1 _, fun c => hp.2 c⟩
  | callback e h k ih => exact ⟨fun _ => hp.1 rfl, fun h' => ih _ (hp.2 h') _⟩

/-- failure ⇒ the call ends with an error; no delivery after a failure (clean start) -/
structure DM.FS (x : DM α) : Prop where
  q : ∀ h, (x h).fwp false (fun f' rh => f' = true → ∃ c, rh.1 = .error c)

/-- no receive callback at all -/
structure DM.NR (x : DM α) : Prop where
  q : ∀ h, (x h).fwp true (fun _ _ => True)

/-- no delivery after a failure (clean start) -/
structure DM.OKH (x : DM α) : Prop where
  q : ∀ h, (x h).fwp false (fun _ _ => True)

namespace DM

theorem fwp_bind' (x : DM α) (g : α → DM β) (h : Handle) (f : Bool) (Q : Bool → Except Code β × Handle → Prop) :
    ((x >>= g) h).fwp f Q ↔ (x h).fwp f (fun f' rh => match rh.1 with
      | .ok a => (g a rh.2).fwp f' Q
      | .error c => Q f' (.error c, rh.2)) := by
  show ((x h).bind _).fwp f Q ↔ _
  rw [Prog.fwp_bind]
  apply Iff.intro <;> intro hp <;> refine Prog.fwp_mono _ _ _ _ ?_ hp <;> intro f' ⟨r, h'⟩ hq <;> cases r <;> exact hq

theorem fwp_attempt (x : DM α) (h : Handle) (f : Bool) (Q : Bool → Except Code (Except Code α) × Handle → Prop) :
    (attempt x h).fwp f Q ↔ (x h).fwp f (fun f' rh => Q f' (.ok rh.1, rh.2)) := by
  show ((x h).bind _).fwp f Q ↔ _
  rw [Prog.fwp_bind]
  exact Iff.rfl

theorem fwp_bind_of {x : DM α} {g : α → DM β} {h : Handle} {f : Bool} {Q : Bool → Except Code α × Handle → Prop}
    {Q' : Bool → Except Code β × Handle → Prop} (hx : (x h).fwp f Q)
    (hok : ∀ f' a h', Q f' (.ok a, h') → (g a h').fwp f' Q')
    (herr : ∀ f' c h', Q f' (.error c, h') → Q' f' (.error c, h')) : ((x >>= g) h).fwp f Q' := by
  rw [fwp_bind']
  refine Prog.fwp_mono _ _ _ _ ?_ hx
  intro f' ⟨r, h'⟩ hq
  cases r with
  | ok a => exact hok f' a h' hq
  | error c => exact herr f' c h' hq

/-- where a failure means an error result, a success means that no transfer has failed -/
theorem flag_of_ok {f' : Bool} {a : α} (hq : f' = true → ∃ c, (Except.ok a : Except Code α) = .error c) : f' = false := by
  cases f' with
  | false => rfl
  | true => obtain ⟨c, e⟩ := hq rfl; cases e

theorem fwp_pure (a : α) (h : Handle) (f Q) : ((pure a : DM α) h).fwp f Q ↔ Q f (.ok a, h) := Iff.rfl
theorem fwp_fail (c : Code) (h : Handle) (f) (Q : Bool → Except Code α × Handle → Prop) :
    ((fail c : DM α) h).fwp f Q ↔ Q f (.error c, h) := Iff.rfl
theorem fwp_ub (u : UB) (h : Handle) (f) (Q : Bool → Except Code α × Handle → Prop) : ((DM.ub u : DM α) h).fwp f Q ↔ True := Iff.rfl
theorem fwp_getH (h : Handle) (f Q) : (getH h).fwp f Q ↔ Q f (.ok h, h) := Iff.rfl
theorem fwp_setH (h0 h : Handle) (f : Bool) (Q) : ((setH h0) h).fwp f Q ↔ Q f (.ok (), h0) := Iff.rfl
theorem fwp_modH (g : Handle → Handle) (h : Handle) (f Q) : (modH g h).fwp f Q ↔ Q f (.ok (), g h) := Iff.rfl
theorem fwp_rread (reg : Nat) (h : Handle) (f Q) :
    (rread reg h).fwp f Q ↔ (∀ v, Q f (.ok v, h)) ∧ ∀ c, Q true (.error c, h) := Iff.rfl
theorem fwp_swrite (reg : Nat) (d : List UInt8) (h : Handle) (f Q) :
    (swrite reg d h).fwp f Q ↔ Q f (.ok (), h) ∧ ∀ c, Q true (.error c, h) := Iff.rfl
theorem fwp_bread (reg n : Nat) (h : Handle) (f Q) :
    (bread reg n h).fwp f Q ↔ (∀ v, Q f (.ok v, h)) ∧ ∀ c, Q true (.error c, h) := Iff.rfl
theorem fwp_bwrite (reg : Nat) (d : List UInt8) (h : Handle) (f : Bool) (Q) :
    ((bwrite reg d) h).fwp f Q ↔ Q f (.ok (), h) ∧ ∀ c, Q true (.error c, h) := Iff.rfl
theorem fwp_ite (c : Prop) [Decidable c] (x y : DM α) (h : Handle) (f : Bool) (Q) :
    ((if c then x else y) h).fwp f Q ↔ (if c then (x h).fwp f Q else (y h).fwp f Q) := by
  split <;> rfl

/-- without exemptions `FailFast` is the syntactic form of `FS`: a failed transfer is answered by
    `return code;`, so the call ends with an error and nothing is delivered after it -/
theorem _root_.Sx.Prog.FailFast.fwp {p : Prog (Except Code α × Handle)} (hp : p.FailFast fun _ => False) :
    p.fwp false (fun f' rh => f' = true → ∃ c, rh.1 = .error c) := by
  have err : ∀ {γ : Type} {k : Except Code γ → Prog (Except Code α × Handle)},
      (False ∨ ∀ c, ∃ h, k (.error c) = .ret (.error c, h)) →
      ∀ c, (k (.error c)).fwp true (fun f' rh => f' = true → ∃ c, rh.1 = .error c) := by
    intro γ k h c
    obtain ⟨h', e⟩ := h.resolve_left id c
    rw [e]; exact fun _ => ⟨c, rfl⟩
  induction p with
  | ret a => exact fun e => by cases e
  | ub u => trivial
  | sread reg n k ih | rread reg k ih | bread reg n k ih | rawbread reg n k ih =>
      exact ⟨fun v => ih _ (hp.2 _), err hp.1⟩
  | swrite reg d k ih | bwrite reg d k ih => exact ⟨ih _ (hp.2 _), err hp.1⟩
  | callback e h k ih => exact ⟨(fun e => nomatch e), fun h' => ih _ (hp h')⟩

theorem FS_of_FF {x : DM α} (hx : FF (fun _ => False) x) : FS x := ⟨fun h => (hx.ff h).fwp⟩

theorem FS_pure (a : α) : FS (pure a : DM α) := ⟨fun _ e => by cases e⟩
theorem FS_pure' (a : α) : FS (pure' a : DM α) := ⟨fun _ e => by cases e⟩
theorem FS_fail (c : Code) : FS (fail c : DM α) := ⟨fun _ e => by cases e⟩
theorem FS_ub (u : UB) : FS (DM.ub u : DM α) := ⟨fun _ => trivial⟩
theorem FS_getH : FS getH := ⟨fun _ e => by cases e⟩
theorem FS_setH (h : Handle) : FS (setH h) := ⟨fun _ e => by cases e⟩
theorem FS_modH (f : Handle → Handle) : FS (modH f) := ⟨fun _ e => by cases e⟩
theorem FS_cb (e : CbEvent) : FS (cb e) := FS_of_FF (FF_cb e)
theorem FS_sread (reg n : Nat) : FS (sread reg n) := FS_of_FF (FF_sread reg n)
theorem FS_rread (reg : Nat) : FS (rread reg) := FS_of_FF (FF_rread reg)
theorem FS_swrite (reg : Nat) (d : List UInt8) : FS (swrite reg d) := FS_of_FF (FF_swrite reg d)
theorem FS_bwrite (reg : Nat) (d : List UInt8) : FS (bwrite reg d) := FS_of_FF (FF_bwrite reg d)
theorem FS_bread (reg n : Nat) : FS (bread reg n) := FS_of_FF (FF_bread reg n)
theorem FS_rawbread (reg n : Nat) : FS (rawbread reg n) := FS_of_FF (FF_rawbread reg n)
theorem FS_ofExcept (r : Except Code α) : FS (ofExcept r) := by cases r <;> exact ⟨fun _ e => by cases e⟩
theorem FS_bind {x : DM α} {g : α → DM β} (hx : FS x) (hg : ∀ a, FS (g a)) : FS (x >>= g) :=
  ⟨fun h => fwp_bind_of (hx.q h) (fun _ a h' hq => by rw [flag_of_ok hq]; exact (hg a).q h') (fun _ c _ _ _ => ⟨c, rfl⟩)⟩
theorem FS_ite {c : Prop} [Decidable c] {x y : DM α} (hx : FS x) (hy : FS y) : FS (if c then x else y) := by
  split <;> assumption

theorem NR_pure (a : α) : NR (pure a : DM α) := ⟨fun _ => trivial⟩
theorem NR_pure' (a : α) : NR (pure' a : DM α) := ⟨fun _ => trivial⟩
theorem NR_fail (c : Code) : NR (fail c : DM α) := ⟨fun _ => trivial⟩
theorem NR_ub (u : UB) : NR (DM.ub u : DM α) := ⟨fun _ => trivial⟩
theorem NR_getH : NR getH := ⟨fun _ => trivial⟩
theorem NR_setH (h : Handle) : NR (setH h) := ⟨fun _ => trivial⟩
theorem NR_modH (f : Handle → Handle) : NR (modH f) := ⟨fun _ => trivial⟩
theorem NR_cb_tx : NR (cb .tx) := ⟨fun _ => ⟨(fun _ _ _ e => nomatch e), fun _ => trivial⟩⟩
theorem NR_cb_cad (n : Nat) : NR (cb (.cad n)) := ⟨fun _ => ⟨(fun _ _ _ e => nomatch e), fun _ => trivial⟩⟩
theorem NR_sread (reg n : Nat) : NR (sread reg n) := ⟨fun _ => ⟨fun _ => trivial, fun _ => trivial⟩⟩
theorem NR_rread (reg : Nat) : NR (rread reg) := ⟨fun _ => ⟨fun _ => trivial, fun _ => trivial⟩⟩
theorem NR_swrite (reg : Nat) (d : List UInt8) : NR (swrite reg d) := ⟨fun _ => ⟨trivial, fun _ => trivial⟩⟩
theorem NR_bwrite (reg : Nat) (d : List UInt8) : NR (bwrite reg d) := ⟨fun _ => ⟨trivial, fun _ => trivial⟩⟩
theorem NR_bread (reg n : Nat) : NR (bread reg n) := ⟨fun _ => ⟨fun _ => trivial, fun _ => trivial⟩⟩
theorem NR_rawbread (reg n : Nat) : NR (rawbread reg n) := ⟨fun _ => ⟨fun _ => trivial, fun _ => trivial⟩⟩
theorem NR_ofExcept (r : Except Code α) : NR (ofExcept r) := by cases r <;> exact ⟨fun _ => trivial⟩
theorem NR_bind {x : DM α} {g : α → DM β} (hx : NR x) (hg : ∀ a, NR (g a)) : NR (x >>= g) :=
  ⟨fun h => fwp_bind_of (hx.q h) (fun f' a h' _ => Prog.fwp_any_start _ ((hg a).q h') f') (fun _ _ _ _ => trivial)⟩
theorem NR_fail_bind (c : Code) (g : α → DM β) : NR ((fail c : DM α) >>= g) := ⟨fun _ => trivial⟩
theorem NR_attempt {x : DM α} (hx : NR x) : NR (attempt x) := by
  constructor
  intro h
  rw [fwp_attempt]
  exact Prog.fwp_mono _ _ _ _ (fun _ _ _ => trivial) (hx.q h)
theorem NR_ite {c : Prop} [Decidable c] {x y : DM α} (hx : NR x) (hy : NR y) : NR (if c then x else y) := by
  split <;> assumption

theorem OKH_of_FS {x : DM α} (hx : FS x) : OKH x := ⟨fun h => Prog.fwp_mono _ _ _ _ (fun _ _ _ => trivial) (hx.q h)⟩
theorem OKH_of_NR {x : DM α} (hx : NR x) : OKH x := ⟨fun h => Prog.fwp_any_start _ (hx.q h) false⟩
theorem OKH_bind_FS {x : DM α} {g : α → DM β} (hx : FS x) (hg : ∀ a, OKH (g a)) : OKH (x >>= g) :=
  ⟨fun h => fwp_bind_of (hx.q h) (fun _ a h' hq => by rw [flag_of_ok hq]; exact (hg a).q h') (fun _ _ _ _ => trivial)⟩
/-- `r = attempt x; if ok then A else B`: `A` only runs when no transfer of `x` failed -/
theorem OKH_attempt_bind {x : DM α} {g : Except Code α → DM β} (hx : FS x)
    (hok : ∀ a, OKH (g (.ok a))) (herr : ∀ c, NR (g (.error c))) : OKH (attempt x >>= g) := by
  constructor
  intro h
  rw [fwp_bind', fwp_attempt]
  refine Prog.fwp_mono _ _ _ _ ?_ (hx.q h)
  intro f' ⟨r, h'⟩ hq
  cases r with
  | error c => exact Prog.fwp_any_start _ ((herr c).q h') f'
  | ok a => rw [flag_of_ok hq]; exact (hok a).q h'
theorem OKH_bind_NR {x : DM α} {g : α → DM β} (hx : OKH x) (hg : ∀ a, NR (g a)) : OKH (x >>= g) :=
  ⟨fun h => fwp_bind_of (hx.q h) (fun f' a h' _ => Prog.fwp_any_start _ ((hg a).q h') f') (fun _ _ _ _ => trivial)⟩
theorem OKH_attempt {x : DM α} (hx : OKH x) : OKH (attempt x) := by
  constructor
  intro h
  rw [fwp_attempt]
  exact Prog.fwp_mono _ _ _ _ (fun _ _ _ => trivial) (hx.q h)
theorem OKH_pure (a : α) : OKH (pure a : DM α) := ⟨fun _ => trivial⟩
theorem OKH_ub (u : UB) : OKH (DM.ub u : DM α) := ⟨fun _ => trivial⟩
theorem OKH_ite {c : Prop} [Decidable c] {x y : DM α} (hx : OKH x) (hy : OKH y) : OKH (if c then x else y) := by
  split <;> assumption

end DM

macro "nr_step" : tactic => `(tactic| with_reducible first
  | intro _
  | exact DM.NR_fail_bind _ _ | apply DM.NR_bind | apply DM.NR_attempt
  | apply DM.NR_ite
  | exact DM.NR_pure _ | exact DM.NR_pure' _ | exact DM.NR_fail _ | exact DM.NR_ub _ | exact DM.NR_getH
  | exact DM.NR_setH _ | exact DM.NR_modH _ | exact DM.NR_cb_tx | exact DM.NR_cb_cad _
  | exact DM.NR_sread _ _ | exact DM.NR_rread _ | exact DM.NR_swrite _ _ | exact DM.NR_bwrite _ _
  | exact DM.NR_bread _ _ | exact DM.NR_rawbread _ _ | exact DM.NR_ofExcept _
  | assumption)

/-- whenever a transfer of `x` has failed, `x` ends with the handle it started with -/
structure DM.TX (x : DM α) : Prop where
  q : ∀ h, (x h).fwp false (fun f' rh => f' = true → rh.2 = h)

structure DM.KeepH (x : DM α) : Prop where
  q : ∀ h f, (x h).fwp f (fun _ rh => rh.2 = h)

namespace DM
theorem KeepH_pure (a : α) : KeepH (pure a : DM α) := ⟨fun _ _ => rfl⟩
theorem KeepH_fail (c : Code) : KeepH (fail c : DM α) := ⟨fun _ _ => rfl⟩
theorem KeepH_getH : KeepH getH := ⟨fun _ _ => rfl⟩
theorem KeepH_rread (reg : Nat) : KeepH (rread reg) := ⟨fun _ _ => ⟨fun _ => rfl, fun _ => rfl⟩⟩
theorem KeepH_sread (reg n : Nat) : KeepH (sread reg n) := ⟨fun _ _ => ⟨fun _ => rfl, fun _ => rfl⟩⟩
theorem KeepH_bread (reg n : Nat) : KeepH (bread reg n) := ⟨fun _ _ => ⟨fun _ => rfl, fun _ => rfl⟩⟩
theorem KeepH_bind {x : DM α} {g : α → DM β} (hx : KeepH x) (hg : ∀ a, KeepH (g a)) : KeepH (x >>= g) :=
  ⟨fun h f => fwp_bind_of (hx.q h f) (fun _ a _ e => by cases e; exact (hg a).q _ _) (fun _ _ _ e => e)⟩
theorem KeepH_ite {c : Prop} [Decidable c] {x y : DM α} (hx : KeepH x) (hy : KeepH y) : KeepH (if c then x else y) := by
  split <;> assumption

theorem TX_pure (a : α) : TX (pure a : DM α) := ⟨fun _ e => by cases e⟩
theorem TX_of_keepH {x : DM α} (hx : KeepH x) : TX x := ⟨fun h => Prog.fwp_mono _ _ _ _ (fun _ _ e _ => e) (hx.q h false)⟩
theorem TX_modH_pure (g : Handle → Handle) (a : α) : TX (do modH g; pure a) := ⟨fun _ e => by cases e⟩
theorem TX_bind_keep {x : DM α} {g : α → DM β} (hx : KeepH x) (hfs : FS x) (hg : ∀ a, TX (g a)) : TX (x >>= g) :=
  ⟨fun h => fwp_bind_of (Prog.fwp_and _ _ _ _ (hx.q h false) (hfs.q h))
    (fun _ a _ hq => by cases hq.1; rw [flag_of_ok hq.2]; exact (hg a).q _) (fun _ _ _ hq _ => hq.1)⟩
theorem TX_ite {c : Prop} [Decidable c] {x y : DM α} (hx : TX x) (hy : TX y) : TX (if c then x else y) := by
  split <;> assumption
end DM

section
open DM Sx.Model
theorem KeepH_swrite (reg : Nat) (d : List UInt8) : KeepH (swrite reg d) := ⟨fun _ _ => by simp [DM.swrite, Prog.fwp]⟩
theorem KeepH_bwrite (reg : Nat) (d : List UInt8) : KeepH (bwrite reg d) := ⟨fun _ _ => by simp [DM.bwrite, Prog.fwp]⟩
theorem KeepH_rawbread (reg n : Nat) : KeepH (rawbread reg n) := ⟨fun _ _ => by simp [DM.rawbread, Prog.fwp]⟩
theorem KeepH_ub (u : UB) : KeepH (DM.ub u : DM α) := ⟨fun _ _ => trivial⟩
theorem KeepH_ofExcept (r : Except Code α) : KeepH (ofExcept r) := by cases r <;> exact ⟨fun _ _ => rfl⟩
theorem TX_modH (g : Handle → Handle) : TX (modH g) := ⟨fun _ e => by cases e⟩
theorem keep_append (reg : Nat) (v m : UInt8) : KeepH (appendRegister reg v m) := by
  unfold appendRegister
  exact KeepH_bind (KeepH_rread _) (fun _ => KeepH_swrite _ _)
theorem fs_append (reg : Nat) (v m : UInt8) : FS (appendRegister reg v m) := by
  unfold appendRegister
  exact FS_bind (FS_rread _) (fun _ => FS_swrite _ _)
end

end Sx
