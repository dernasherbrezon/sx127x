import Sx.Lemmas.Reject
import Sx.Props.C13
/-
  For C10: in a driver function every refusal (INVALID_ARG / INVALID_STATE) precedes
  the first write and any change of the handle.  `rc_walk` shows it for a function whose statements
  are quiet up to a point and never refuse after it; the beacon start and the two LoRa setters whose
  late read-back could refuse are treated by hand.
-/
namespace Sx
open Sx.Model DM Mem Chip

theorem bw_code_invalid : ∀ x : UInt8, ¬(x >>> 4).toNat ≤ 9 → bandwidthOfCode (x >>> 4) = none := by
  apply forall_byte
  decide

macro "quiet_walk" : tactic => `(tactic| repeat (first | quiet_step | split | dsimp only | dsimp only [model_body]))

macro "norej_walk" : tactic => `(tactic| repeat (first | norej_step | split | dsimp only | simp only [norej] | dsimp only [model_body]))

@[norej] theorem norej_withRemaining (n : UInt16) : NoRej (fskOokTxWithRemaining n) := by
  unfold fskOokTxWithRemaining; norej_walk
@[norej] theorem norej_calibrateLoop (fuel : Nat) : NoRej (calibrateLoop fuel) := by
  induction fuel with
  | zero => unfold calibrateLoop; exact NoRej_ub _
  | succ n ih => unfold calibrateLoop; norej_walk
theorem norej_txSetOcp (e : Bool) (m : UInt8) (hm : ¬ m < 45) : NoRej (txSetOcp e m) := by
  unfold txSetOcp
  rw [if_neg hm]
  norej_walk
@[norej] theorem norej_setFrequency (f : UInt64) : NoRej (setFrequency f) := by unfold setFrequency; norej_walk

/-- the traversal for `RC`: statements that neither write nor touch the handle may precede anything
    (`RC_bind_quiet`); what follows the last of them must not refuse.  A conditional is taken apart
    before either is tried, so that no branch is traversed only to find a refusal deep inside. -/
macro "rc_walk" : tactic => `(tactic| repeat (first
  | with_reducible exact RC_fail _ | with_reducible exact RC_pure _ | with_reducible exact RC_ub _
  | intro _ | with_reducible apply RC_ite
  | ((with_reducible apply RC_bind_quiet); focus (quiet_walk; done))
  | focus ((with_reducible apply RC_of_quiet); quiet_walk; done)
  | focus ((with_reducible apply RC_of_norej); norej_walk; done)
  | split | dsimp only))

theorem rc_txSetPaConfig (pin : Nat) (power : Int) : RC (txSetPaConfig pin power) := by
  unfold txSetPaConfig
  apply RC_ite (RC_fail _)
  apply RC_ite (RC_fail _)
  dsimp only
  apply RC_of_norej
  repeat (first
    | (apply norej_txSetOcp; split <;> (try split) <;> decide)
    | norej_step)

/-- the transmit call inside the beacon start cannot be refused: the format and the length were
    checked on the same handle -/
theorem norej_tx_at (d : List UInt8) (h : Handle)
    (hm : ¬(h.activeModem ≠ Gen.SX127x_MODULATION_FSK ∧ h.activeModem ≠ Gen.SX127x_MODULATION_OOK))
    (hf : h.format = Gen.SX127X_FIXED) (hl : ¬ d.length > Gen.FIFO_SIZE_FSK) (hcap : ¬ d.length > h.packet.length)
    (w : Bool) :
    (fskOokTxSetForTransmission d h).hwp w (fun _ rh => ∀ c, rh.1 = .error c → ¬isReject c) := by
  unfold fskOokTxSetForTransmission checkFskOok
  simp only [hwp_bind', hwp_getH, hwp_pure, if_neg hm]
  have h1 : ¬(h.format = Gen.SX127X_VARIABLE ∧ d.length > Gen.MAX_PACKET_SIZE) := by
    rw [hf]; intro ⟨e, _⟩; exact absurd e (by decide)
  have h2 : ¬(h.format = Gen.SX127X_FIXED ∧ d.length > Gen.MAX_PACKET_SIZE_FSK_FIXED) := by
    intro ⟨_, e⟩
    have : Gen.FIFO_SIZE_FSK ≤ Gen.MAX_PACKET_SIZE_FSK_FIXED := by decide
    omega
  have h3 : ¬h.format = Gen.SX127X_VARIABLE := by rw [hf]; decide
  have h4 : ¬(d.length + (if h.format = Gen.SX127X_VARIABLE then 1 else 0) > h.packet.length) := by
    rw [if_neg h3]; omega
  rw [if_neg h1, if_neg h2, if_neg h4, if_neg h3]
  have : NoRej (do packetCopy 0 d; fskOokTxWithRemaining (UInt16.ofNat d.length)) := by norej_walk
  exact this.q h w

theorem rc_fskOokTxStartBeacon (d : List UInt8) (i : Nat) : RC (fskOokTxStartBeacon d i) := by
  constructor
  intro h
  unfold fskOokTxStartBeacon checkFskOok
  simp only [hwp_bind', hwp_getH]
  by_cases hm : (h.activeModem ≠ Gen.SX127x_MODULATION_FSK ∧ h.activeModem ≠ Gen.SX127x_MODULATION_OOK)
  · rw [if_pos hm, hwp_fail]; exact fun _ _ _ => ⟨rfl, rfl⟩
  rw [if_neg hm, hwp_pure]
  dsimp only
  by_cases hf : h.format ≠ Gen.SX127X_FIXED
  · rw [if_pos hf, hwp_fail]; exact fun _ _ _ => ⟨rfl, rfl⟩
  rw [if_neg hf]
  by_cases hl : d.length > Gen.FIFO_SIZE_FSK ∨ d.length > h.packet.length
  · rw [if_pos hl, hwp_fail]; exact fun _ _ _ => ⟨rfl, rfl⟩
  rw [if_neg hl]
  have hcap : ¬d.length > h.packet.length := fun x => hl (Or.inr x)
  have hl : ¬d.length > Gen.FIFO_SIZE_FSK := fun x => hl (Or.inl x)
  cases beaconTimers i with
  | none => dsimp only; rw [hwp_ub]; trivial
  | some t =>
    obtain ⟨c1, c2, resol⟩ := t
    dsimp only
    iterate 5 (rw [hwp_bind', hwp_swrite]; dsimp only)
    rw [hwp_bind']
    refine Prog.hwp_mono _ _ _ _ ?_ (norej_tx_at d h hm (by simpa using hf) hl hcap true)
    intro w' ⟨r, h'⟩ hq
    cases r with
    | error c => exact fun c' e hr => absurd hr (hq c' e)
    | ok a =>
      dsimp only
      have : NoRej (do appendRegister Gen.REGPACKETCONFIG2 0x08 0xf7; swrite Gen.REGSEQCONFIG1 [0xa4]) := by norej_walk
      exact Prog.hwp_mono _ _ _ _ (fun _ _ hq c e r => absurd r (hq c e)) (this.q h' w')

theorem bw_valid_mem (bw : Nat) (h : ¬(bw % 16 ≠ 0 ∨ bw > Gen.SX127x_BW_500000)) : bw ∈ Gen.enum_sx127x_bw_t := by
  have h5 : Gen.SX127x_BW_500000 = 144 := rfl
  rw [h5] at h
  have : bw = 0 ∨ bw = 16 ∨ bw = 32 ∨ bw = 48 ∨ bw = 64 ∨ bw = 80 ∨ bw = 96 ∨ bw = 112 ∨ bw = 128 ∨ bw = 144 := by omega
  rcases this with e | e | e | e | e | e | e | e | e | e <;> subst e <;> decide

theorem RejectClean.of_wp {x : DM α} {h : Handle} {chip : Chip}
    (hw : wp x h ⟨chip, [], []⟩ (fun _ h' s' => h' = h ∧ writesP s'.bus = [])) : RejectClean x h chip :=
  fun _ _ _ hr _ => wp_elim hw hr

/-- `sx127x_lora_set_bandwidth`: the only refusals are the wrong modulation and an argument that is
    not a bandwidth code, both before the first transfer; with a valid code the call succeeds
    (C13), so the read-back inside the LDRO update cannot refuse after the write -/
theorem c10_setBandwidth (bw : Nat) (h : Handle) (chip : Chip) (wf : chip.WF)
    (hpage : h.activeModem = Gen.SX127x_MODULATION_LORA → chip.isLora = true) :
    RejectClean (loraSetBandwidth bw) h chip := by
  by_cases hm : h.activeModem = Gen.SX127x_MODULATION_LORA
  · by_cases hbad : (bw % 16 ≠ 0 ∨ bw > Gen.SX127x_BW_500000)
    · refine .of_wp ?_
      unfold loraSetBandwidth
      simp only [wp_bind, wp_checkModulation, hm, ne_eq, not_true_eq_false, ↓reduceIte]
      rw [wp_ite, if_pos hbad, wp_fail]
      exact ⟨rfl, rfl⟩
    · intro c h' s' hr _
      have := wp_elim (C13_set_bandwidth bw (bw_valid_mem bw hbad) h hm chip wf (hpage hm)) hr
      exact absurd this.1 (by simp)
  · refine .of_wp ?_
    unfold loraSetBandwidth
    simp only [wp_bind, wp_checkModulation, hm, ne_eq, not_false_eq_true, ↓reduceIte]
    exact ⟨trivial, rfl⟩

/-- `sx127x_lora_set_modem_config_2` with one of the seven spreading factors: refusals (wrong
    modulation, SF6 without implicit header, a reserved bandwidth code retained by the chip) all
    precede the first write; otherwise the call succeeds (C13) -/
theorem c10_setModemConfig2 (sf : Nat) (hsf : sf ∈ Gen.enum_sx127x_sf_t) (h : Handle) (chip : Chip) (wf : chip.WF)
    (hpage : h.activeModem = Gen.SX127x_MODULATION_LORA → chip.isLora = true) :
    RejectClean (loraSetModemConfig2 sf) h chip := by
  by_cases hm : h.activeModem = Gen.SX127x_MODULATION_LORA
  · have hl := hpage hm
    by_cases h6 : (sf = Gen.SX127x_SF_6 ∧ (!h.implicitHeader) = true)
    · refine .of_wp ?_
      unfold loraSetModemConfig2
      simp only [wp_bind, wp_checkModulation, hm, ne_eq, not_true_eq_false, ↓reduceIte, wp_getH]
      rw [wp_ite, if_pos h6, wp_fail]
      exact ⟨rfl, rfl⟩
    · by_cases hbwc : (chip.lora.rd 0x1d >>> 4).toNat ≤ 9
      · intro c h' s' hr _
        have h6' : sf = Gen.SX127x_SF_6 → h.implicitHeader = true := by
          intro e
          cases hi : h.implicitHeader with
          | true => rfl
          | false => exact absurd ⟨e, by rw [hi]; rfl⟩ h6
        have := wp_elim (C13_set_spreading_factor sf hsf h hm h6' chip wf hl hbwc) hr
        exact absurd this.1 (by simp)
      · refine .of_wp ?_
        unfold loraSetModemConfig2 loraGetBandwidth
        simp only [wp_bind, wp_checkModulation, hm, ne_eq, not_true_eq_false, ↓reduceIte, wp_getH]
        rw [wp_ite, if_neg h6]
        simp only [wp_bind, wp_checkModulation, hm, ne_eq, not_true_eq_false, ↓reduceIte, wp_rread,
          show Gen.REGMODEMCONFIG1 = 0x1d from rfl, readN_one _ 0x1d (by decide), show (0x1d % 128) = 0x1d from rfl,
          peek_lora _ _ hl (show inPage 0x1d = true by decide), be32_single, bw_code_invalid _ hbwc, wp_fail]
        exact ⟨trivial, rfl⟩
  · refine .of_wp ?_
    unfold loraSetModemConfig2
    simp only [wp_bind, wp_checkModulation, hm, ne_eq, not_false_eq_true, ↓reduceIte]
    exact ⟨trivial, rfl⟩

theorem writesP_eq (l : List BusEv) : writesP l = writesOf l := by
  induction l with
  | nil => rfl
  | cons e l ih =>
    show writesP (e :: l) = (e :: l).filter BusEv.isWrite
    rw [List.filter_cons]
    cases e <;> simp [writesP, BusEv.isWrite, ih, writesOf]

end Sx
