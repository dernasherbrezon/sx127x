import Sx.Basic
/- Round trip between the big-endian value of a multi-byte register read and its bytes; how `UInt8`/`UInt16` values
   and sums compare with the naturals they come from. -/
namespace Sx
theorem u8_ofNat_eq (x : Nat) (a : UInt8) (h : x % 256 = a.toNat) : UInt8.ofNat x = a := by
  apply UInt8.toNat_inj.mp
  simp [UInt8.toNat_ofNat', h]

theorem beNat_lt (l : List UInt8) : beNat l < 256 ^ l.length := by
  induction l with
  | nil => decide
  | cons b bs ih =>
    have hb := b.toNat_lt
    have hp : 0 < 256 ^ bs.length := Nat.pow_pos (by decide)
    show b.toNat * 256 ^ bs.length + beNat bs < 256 ^ (bs.length + 1)
    rw [Nat.pow_succ]
    calc b.toNat * 256 ^ bs.length + beNat bs < b.toNat * 256 ^ bs.length + 256 ^ bs.length := by omega
      _ = (b.toNat + 1) * 256 ^ bs.length := by rw [Nat.add_mul, Nat.one_mul]
      _ ≤ 256 * 256 ^ bs.length := Nat.mul_le_mul_right _ (by omega)
      _ = 256 ^ bs.length * 256 := Nat.mul_comm _ _

theorem be32_lt (l : List UInt8) : (be32 l).toNat < 2 ^ (8 * l.length) := by
  have h := beNat_lt l
  have e : (256 : Nat) ^ l.length = 2 ^ (8 * l.length) := by
    rw [show (256 : Nat) = 2 ^ 8 from rfl, ← Nat.pow_mul]
  unfold be32
  rw [UInt32.toNat_ofNat']
  exact Nat.lt_of_le_of_lt (Nat.mod_le _ _) (e ▸ h)

theorem be32_toNat (vs : List UInt8) (h : vs.length ≤ 4) : (be32 vs).toNat = beNat vs := by
  have hb : beNat vs < 256 ^ 4 := Nat.lt_of_lt_of_le (beNat_lt vs) (Nat.pow_le_pow_right (by decide) h)
  simp [be32, UInt32.toNat_ofNat', Nat.mod_eq_of_lt hb]

/-- byte `i` of a big-endian number is its `i`-th digit in base 256 -/
theorem beNat_byte (vs : List UInt8) : ∀ (i : Nat), i < vs.length →
    beNat vs / 256 ^ (vs.length - 1 - i) % 256 = (vs.getD i 0).toNat := by
  induction vs with
  | nil => intro i hi; simp at hi
  | cons b bs ih =>
    intro i hi
    have hp : 0 < 256 ^ bs.length := Nat.pow_pos (by decide)
    show (b.toNat * 256 ^ bs.length + beNat bs) / 256 ^ (bs.length + 1 - 1 - i) % 256 = _
    cases i with
    | zero =>
      rw [Nat.add_sub_cancel, Nat.sub_zero, Nat.add_comm, Nat.add_mul_div_right _ _ hp, Nat.div_eq_of_lt (beNat_lt bs),
        Nat.zero_add, Nat.mod_eq_of_lt b.toNat_lt]
      rfl
    | succ j =>
      have hj : j < bs.length := by simpa using hi
      have hP : 256 ^ bs.length = 256 ^ (bs.length - 1 - j) * 256 ^ (j + 1) := by
        rw [← Nat.pow_add]; congr 1; omega
      rw [show bs.length + 1 - 1 - (j + 1) = bs.length - 1 - j by omega, hP, Nat.mul_left_comm,
        Nat.mul_add_div (Nat.pow_pos (by decide)), Nat.pow_succ, ← Nat.mul_assoc, Nat.mul_add_mod_self_right]
      exact ih j hj

theorem byteOf_be32 (vs : List UInt8) (h : vs.length ≤ 4) (i : Nat) (hi : i < vs.length) :
    byteOf (be32 vs) vs.length i = vs.getD i 0 := by
  unfold byteOf
  rw [be32_toNat vs h]
  exact u8_ofNat_eq _ _ (beNat_byte vs i hi)

theorem be32_single (x : UInt8) : (be32 [x]).toUInt8 = x := by
  apply UInt8.toNat_inj.mp
  rw [UInt32.toNat_toUInt8, be32_toNat [x] (by simp)]
  simp only [beNat, List.length_nil, Nat.pow_zero, Nat.mul_one, Nat.add_zero]
  have := x.toNat_lt
  omega
theorem byteOf_one (v : UInt32) : (List.range 1).map (byteOf v 1) = [v.toUInt8] := by
  simp only [List.range_one, List.map_cons, List.map_nil, byteOf, Nat.sub_self, Nat.zero_sub, Nat.pow_zero,
    Nat.div_one]
  rfl

theorem u8_toNat_le (x : UInt8) : x.toNat ≤ 255 := by have := x.toNat_lt; omega

theorem u8_toNat_ofNat (k : Nat) (h : k ≤ 255) : (UInt8.ofNat k).toNat = k := by
  rw [UInt8.toNat_ofNat']; omega

theorem ofNat16 (n : Nat) (h : n < 65536) : (UInt16.ofNat n).toNat = n := by simp [UInt16.toNat_ofNat']; omega

theorem u16_ofNat_toNat_le (n : Nat) : (UInt16.ofNat n).toNat ≤ n := by
  simp only [UInt16.toNat_ofNat']
  exact Nat.mod_le _ _

theorem u16_add_toNat_le (a b : UInt16) : (a + b).toNat ≤ a.toNat + b.toNat := by
  rw [UInt16.toNat_add]; exact Nat.mod_le _ _

theorem u8_add_one_toNat (p : UInt8) : (p + 1).toNat = (p.toNat + 1) % 256 := by
  simp [UInt8.toNat_add]

theorem u8_ofNat_succ (n : Nat) : UInt8.ofNat (n + 1) = UInt8.ofNat n + 1 := by
  apply UInt8.toNat_inj.mp
  simp [UInt8.toNat_add, UInt8.toNat_ofNat', Nat.add_mod]

theorem u8_add_assoc' (p : UInt8) (n : Nat) : p + 1 + UInt8.ofNat n = p + UInt8.ofNat (n + 1) := by
  rw [u8_ofNat_succ]
  apply UInt8.toNat_inj.mp
  simp only [UInt8.toNat_add]
  omega

end Sx
