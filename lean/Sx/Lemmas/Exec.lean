import Sx.Lemmas.Cache
import Sx.Lemmas.Bytes
import Sx.Lemmas.Req
/-
  Every shadow-layer call ends in one of a few outcomes (`Shadow.*_cases`).  With that, the world
  invariant `Inv` (chip and cache well-formed, cache coherent, only admissible events scheduled) is
  preserved by every shadow-layer operation of the cached interpreter, hence by every program
  whose requests satisfy `CohReq`.
-/
namespace Sx
open Mem Chip Cache

/-- the requests on which what the shadow stores is what the chip holds afterwards.  The three
    exclusions are where they would part: a register read of more than 4 bytes is cut to a
    `uint32_t` before the fill; a burst at the FIFO address stays in the FIFO while `store`
    advances; a buffer write to RegOpMode re-maps the page without dropping it from the cache.
    Every request the driver issues satisfies this (`coh_api`, Lemmas/ContractAll.lean). -/
def CohReq : Req → Prop
  | .sread _ n => n ≤ 4
  | .swrite reg d => reg ≠ 0 ∨ d.length ≤ 1
  | .bwrite reg _ => reg ≠ 1
  | _ => True

/-! Each lemma reads: to show `M` of what the call returns, show it of every outcome the call can
have.  Undefined behaviour need not be considered when the request lies inside the shadow arrays. -/

namespace Shadow

private theorem cached_of {b : Bool} (h : ¬(!b) = true) : b = true := by cases b <;> simp_all

theorem sread_cases {cached : Bool} {w : World} {reg n : Nat} {M : Step UInt32 → Prop}
    (ub : (1 ≤ n ∧ reg + n ≤ w.cache.size) ∨ M (.ub .oobShadow))
    (hit : cached = true → w.cache.isIgnore reg = false → w.cache.prefixLen reg n = n →
      M (.ok (.ok (be32 (w.cache.vals.rds reg n))) w))
    (bus : M (.ok (w.busRead reg n).1 (w.busRead reg n).2))
    (fill : cached = true → w.cache.isIgnore reg = false → reg + n ≤ w.cache.size →
      ∀ v w1, w.busRead reg n = (.ok v, w1) →
      M (.ok (.ok v) { w1 with cache := w1.cache.store reg ((List.range n).map (byteOf v n)) })) :
    M (sread cached w reg n) := by
  have inside : ¬(1 ≤ n ∧ reg + n ≤ w.cache.size) → M (.ub .oobShadow) := fun h => ub.resolve_left h
  unfold sread
  split
  · exact bus
  · rename_i hc
    split
    · exact inside (by omega)
    · split
      · exact bus
      · rename_i hig
        have hpe := probeEnd_le (prefixLen_le w.cache reg n)
        split
        · exact inside (by omega)
        · split
          · exact hit (cached_of hc) (Bool.eq_false_iff.2 hig) ‹_›
          · unfold sreadMiss
            have hk := busRead_cache w reg n
            generalize hb : w.busRead reg n = br at bus fill hk
            obtain ⟨res, w1⟩ := br
            cases res with
            | error c => exact bus
            | ok v =>
              have hk : w1.cache = w.cache := hk
              show M (sreadFill w1 reg n v)
              unfold sreadFill
              split
              · exact inside (by rw [hk] at *; omega)
              · exact fill (cached_of hc) (Bool.eq_false_iff.2 hig) (by rw [hk] at *; omega) v w1 rfl

theorem rread_cases {cached : Bool} {w : World} {reg : Nat} {M : Step UInt8 → Prop}
    (ub : reg < w.cache.size ∨ M (.ub .oobShadow))
    (hit : cached = true → w.cache.isIgnore reg = false → w.cache.isCached reg = true →
      M (.ok (.ok (w.cache.vals.rd reg)) w))
    (bus : M (.ok ((w.busRead reg 1).1.map UInt32.toUInt8) (w.busRead reg 1).2))
    (fill : cached = true → w.cache.isIgnore reg = false → reg < w.cache.size →
      ∀ v w1, w.busRead reg 1 = (.ok v, w1) →
      M (.ok (.ok v.toUInt8) { w1 with cache := w1.cache.store reg [v.toUInt8] })) :
    M (rread cached w reg) := by
  unfold rread
  split
  · exact bus
  · rename_i hc
    split
    · exact ub.resolve_left (by omega)
    · split
      · exact bus
      · rename_i hig
        split
        · exact hit (cached_of hc) (Bool.eq_false_iff.2 hig) ‹_›
        · unfold rreadMiss
          have hk := busRead_cache w reg 1
          generalize hb : w.busRead reg 1 = br at bus fill hk
          obtain ⟨res, w1⟩ := br
          cases res with
          | error c => exact bus
          | ok v =>
            have hig1 : w1.cache.isIgnore reg = false := by rw [show w1.cache = w.cache from hk]; exact Bool.eq_false_iff.2 hig
            have := fill (cached_of hc) (Bool.eq_false_iff.2 hig) (by omega) v w1 rfl
            simpa only [Cache.store, hig1, Bool.false_eq_true, ↓reduceIte] using this

theorem swrite_cases {cached : Bool} {w : World} {reg : Nat} {d : List UInt8} {M : Step Unit → Prop}
    (ub : reg + d.length ≤ w.cache.size ∨ M (.ub .oobShadow))
    (bus : (cached = false ∨ ∃ c, (w.busWrite reg d).1 = .error c) →
      M (.ok (w.busWrite reg d).1 (w.busWrite reg d).2))
    (store : cached = true → reg + d.length ≤ w.cache.size → ∀ w1, w.busWrite reg d = (.ok (), w1) →
      M (.ok (.ok ()) { w1 with cache := (if reg = Gen.REGOPMODE then w1.cache.dropPage else w1.cache).store reg d })) :
    M (swrite cached w reg d) := by
  unfold swrite
  have hk := busWrite_cache w reg d
  generalize hb : w.busWrite reg d = br at bus store hk
  obtain ⟨res, w1⟩ := br
  cases res with
  | error c => exact bus (.inr ⟨c, rfl⟩)
  | ok u =>
    dsimp only
    split
    · rename_i hc; exact bus (.inl (by cases cached <;> simp_all))
    · rename_i hc
      have hk : w1.cache = w.cache := hk
      unfold swriteStore
      dsimp only
      have hsz : (if reg = Gen.REGOPMODE then w1.cache.dropPage else w1.cache).size = w.cache.size := by
        split
        · rw [dropPage_size, hk]
        · rw [hk]
      rw [hsz]
      split
      · exact ub.resolve_left (by omega)
      · exact store (cached_of hc) (by omega) w1 rfl

theorem bwrite_cases {cached : Bool} {w : World} {reg : Nat} {d : List UInt8} {M : Step Unit → Prop}
    (ub : (reg ≠ Gen.REGFIFO → reg + d.length ≤ w.cache.size) ∨ M (.ub .oobShadow))
    (bus : (cached = false ∨ reg = Gen.REGFIFO ∨ ∃ c, (w.busWriteBuf reg d).1 = .error c) →
      M (.ok (w.busWriteBuf reg d).1 (w.busWriteBuf reg d).2))
    (store : cached = true → reg ≠ Gen.REGFIFO → reg + d.length ≤ w.cache.size →
      ∀ w1, w.busWriteBuf reg d = (.ok (), w1) →
      M (.ok (.ok ()) { w1 with cache := w1.cache.store reg d })) :
    M (bwrite cached w reg d) := by
  unfold bwrite
  have hk := busWriteBuf_cache w reg d
  generalize hb : w.busWriteBuf reg d = br at bus store hk
  obtain ⟨res, w1⟩ := br
  cases res with
  | error c => exact bus (.inr (.inr ⟨c, rfl⟩))
  | ok u =>
    dsimp only
    split
    · rename_i hc; exact bus (.inl (by cases cached <;> simp_all))
    · rename_i hc
      have hk : w1.cache = w.cache := hk
      unfold bwriteStore
      split
      · exact bus (.inr (.inl ‹_›))
      · split
        · exact ub.resolve_left fun h => by have := h ‹_›; rw [hk] at *; omega
        · exact store (cached_of hc) ‹_› (by rw [hk] at *; omega) w1 rfl

theorem sread_false (w : World) (reg n : Nat) :
    sread false w reg n = .ok (w.busRead reg n).1 (w.busRead reg n).2 := rfl

theorem rread_false (w : World) (reg : Nat) :
    rread false w reg = .ok ((w.busRead reg 1).1.map UInt32.toUInt8) (w.busRead reg 1).2 := rfl

theorem swrite_false (w : World) (reg : Nat) (d : List UInt8) :
    swrite false w reg d = .ok (w.busWrite reg d).1 (w.busWrite reg d).2 := by
  unfold swrite
  generalize w.busWrite reg d = br
  obtain ⟨res, w1⟩ := br
  cases res <;> rfl

theorem bwrite_false (w : World) (reg : Nat) (d : List UInt8) :
    bwrite false w reg d = .ok (w.busWriteBuf reg d).1 (w.busWriteBuf reg d).2 := by
  unfold bwrite
  generalize w.busWriteBuf reg d = br
  obtain ⟨res, w1⟩ := br
  cases res <;> rfl

end Shadow

theorem foldl_env_stable {c : Chip} (h : c.WF) (l : List (Nat × Env)) (hl : ∀ e ∈ l, e.2.Admissible = true)
    (p : Nat × Env → Prop) [DecidablePred p] :
    Stable c (l.foldl (fun c e => if p e then e.2.apply c else c) c) := by
  induction l generalizing c with
  | nil => exact Stable.refl h
  | cons e es ih =>
    rw [List.foldl]
    have hes : ∀ e' ∈ es, e'.2.Admissible = true := fun e' m => hl e' (List.mem_cons_of_mem _ m)
    split
    · have s1 := Env.apply_stable h e.2 (hl e (List.mem_cons_self ..))
      exact Stable.trans s1 (ih s1.wf hes)
    · exact ih h hes

theorem inv_of_stable {w w' : World} (i : Inv w) (hc : w'.cache = w.cache) (hs : w'.sched = w.sched)
    (s : Stable w.chip w'.chip) : Inv w' :=
  ⟨s.wf, hc ▸ i.cache, hc ▸ coh_stable i.cache i.coh s, hs ▸ i.sched⟩

theorem pre_inv {w : World} (i : Inv w) : Inv w.pre.1 :=
  inv_of_stable i rfl rfl (foldl_env_stable i.chip w.sched i.sched (fun e => e.1 = w.xfer))

theorem transfer_inv {β : Type} {w : World} (i : Inv w) {act : Chip → β × Chip}
    (hact : ∀ c : Chip, c.WF → Stable c (act c).2) (ev : Except Code β → BusEv) : Inv (w.transfer act ev).2 := by
  have ip := pre_inv i
  rcases w.transfer_cases act ev with ⟨c, h⟩ | h <;> rw [h]
  · exact inv_of_stable ip rfl rfl (Stable.refl ip.chip)
  · exact inv_of_stable ip rfl rfl (hact _ ip.chip)

theorem busRead_inv {w : World} (i : Inv w) (reg n : Nat) : Inv (w.busRead reg n).2 := by
  rw [w.busRead_eq]; exact transfer_inv i (act := fun c => (be32 (c.readN reg n).1, _)) (fun _ h => readN_stable h reg n) _

theorem busReadBuf_inv {w : World} (i : Inv w) (reg n : Nat) : Inv (w.busReadBuf reg n).2 := by
  rw [w.busReadBuf_eq]; exact transfer_inv i (fun _ h => readN_stable h reg n) _

theorem transfer_error_inv {β : Type} {w : World} (i : Inv w) {act : Chip → β × Chip} {ev : Except Code β → BusEv}
    {c : Code} (h : (w.transfer act ev).1 = .error c) : Inv (w.transfer act ev).2 := by
  have ip := pre_inv i
  rcases w.transfer_cases act ev with ⟨c', e⟩ | e <;> rw [e] at h ⊢
  · exact inv_of_stable ip rfl rfl (Stable.refl ip.chip)
  · cases h

theorem coh_store_fill {k : Cache} {c : Chip} (wk : k.WF) (h : Coh k c) (bytes : List UInt8) (reg : Nat)
    (hlen : reg + bytes.length ≤ Cache.N)
    (hb : ∀ i, i < bytes.length → Vol (reg + i) = false → bytes.getD i 0 = c.cell (reg + i)) :
    (k.store reg bytes).WF ∧ Coh (k.store reg bytes) c := by
  induction bytes generalizing k reg with
  | nil => exact ⟨wk, h⟩
  | cons v vs ih =>
    rw [store_cons]
    rw [List.length_cons] at hlen
    have hreg : reg < Cache.N := by omega
    have hcoh : Coh (k.put reg v) c := by
      intro b hbN hc
      by_cases hab : reg = b
      · subst hab
        rw [put_self wk reg v hreg hc]
        exact hb 0 (by rw [List.length_cons]; omega) (not_vol_of_cached (put_wf wk reg v) hbN hc)
      · rw [put_vals reg b v hab]
        rw [put_isCached reg b v hab] at hc
        exact h b hbN hc
    refine ih (put_wf wk reg v) hcoh (reg + 1) (by omega) ?_
    intro i hi hv
    have := hb (i + 1) (by rw [List.length_cons]; omega) (by rw [show reg + (i + 1) = reg + 1 + i by omega]; exact hv)
    rw [show reg + (i + 1) = reg + 1 + i by omega] at this
    simpa using this

theorem fill_inv {w : World} (i : Inv w) {reg n : Nat} (hn : n ≤ 4) (hreg1 : 1 ≤ reg) (hsz : reg + n ≤ w.cache.size)
    {v : UInt32} {w1 : World} (hbr : w.busRead reg n = (.ok v, w1)) :
    Inv { w1 with cache := w1.cache.store reg ((List.range n).map (byteOf v n)) } := by
  have ib : Inv w1 := by have := busRead_inv i reg n; rwa [hbr] at this
  obtain ⟨hv1, hv2⟩ := busRead_ok reg n v w1 hbr
  have hregn : reg + n ≤ Cache.N := by rw [← i.cache.hs]; exact hsz
  have hrl := readN_length w.pre.1.chip reg n
  have hfill := coh_store_fill ib.cache ib.coh ((List.range n).map (byteOf v n)) reg
    (by simpa using hregn) (by
      intro j hj hvj
      have hj : j < n := by simpa using hj
      have := byteOf_be32 (w.pre.1.chip.readN reg n).1 (by rw [hrl]; exact hn) j (by rw [hrl]; exact hj)
      rw [hrl, ← hv1] at this
      rw [show ((List.range n).map (byteOf v n)).getD j 0 = byteOf v n j by simp [List.getD, hj], this, hv2]
      exact readN_vals _ reg n hreg1 (by rw [N_eq] at hregn; omega) j hj hvj)
  exact ⟨ib.chip, hfill.1, hfill.2, ib.sched⟩

theorem sread_inv {w : World} (i : Inv w) (reg n : Nat) (hn : n ≤ 4) :
    (Shadow.sread true w reg n).Holds Inv :=
  Shadow.sread_cases (.inr trivial) (fun _ _ _ => i) (busRead_inv i reg n) fun _ hig hsz _ _ hbr =>
    fill_inv i hn (i.cache.pos_of_not_ignore hig) hsz hbr

theorem rread_inv {w : World} (i : Inv w) (reg : Nat) : (Shadow.rread true w reg).Holds Inv :=
  Shadow.rread_cases (.inr trivial) (fun _ _ _ => i) (busRead_inv i reg 1) fun _ hig hsz v _ hbr =>
    byteOf_one v ▸ fill_inv i (by decide) (i.cache.pos_of_not_ignore hig) hsz hbr

theorem coh_write {k : Cache} {c : Chip} (wk : k.WF) (wc : c.WF) (h : Coh k c) (reg : Nat) (d : List UInt8)
    (hreq : reg ≠ 0 ∨ d.length ≤ 1) (hlen : reg + d.length ≤ Cache.N) :
    let k' := if reg = Gen.REGOPMODE then k.dropPage else k
    (k'.store reg d).WF ∧ (c.writeN reg d).WF ∧ Coh (k'.store reg d) (c.writeN reg d) := by
  match reg, d, hreq, hlen with
  | 0, [], _, _ => exact ⟨wk, wc, h⟩
  | 0, [v], _, _ =>
    -- a single byte to the FIFO address: nothing is stored, the chip changes volatile cells only
    have s := writeN_zero_stable wc [v]
    show (k.store 0 [v]).WF ∧ _ ∧ Coh (k.store 0 [v]) _
    rw [show k.store 0 [v] = k from put_of_ignore (wk.vol 0 (by decide) (by decide)) v]
    exact ⟨wk, s.wf, coh_stable wk h s⟩
  | 0, _ :: _ :: _, hreq, _ => simp at hreq
  | 1, [], _, _ => exact ⟨dropPage_wf wk, wc, coh_dropPage h⟩
  | 1, v :: vs, _, hlen =>
    -- the write to RegOpMode is a plain store that may re-map the paged addresses
    have wd := dropPage_wf wk
    have hu : Upd c (c.write 1 v) 1 v := (write_effect wc 1 v).resolve_left fun h => h.2.1 rfl
    show (k.dropPage.store 1 (v :: vs)).WF ∧ _ ∧ Coh (k.dropPage.store 1 (v :: vs)) _
    rw [store_cons, put_of_ignore (wd.vol 1 (by decide) (by decide))]
    exact coh_store_writeN wd hu.wf (coh_dropPage_upd wk h hu) 2 vs (by decide) (by rw [List.length_cons] at hlen; omega)
  | reg + 2, d, _, hlen =>
    show (k.store (reg + 2) d).WF ∧ _ ∧ Coh (k.store (reg + 2) d) _
    exact coh_store_writeN wk wc h (reg + 2) d (by omega) hlen

theorem swrite_inv {w : World} (i : Inv w) (reg : Nat) (d : List UInt8) (hreq : reg ≠ 0 ∨ d.length ≤ 1) :
    (Shadow.swrite true w reg d).Holds Inv := by
  refine Shadow.swrite_cases (.inr trivial) (fun h => ?_) fun _ hsz w1 hb => ?_
  · obtain ⟨c, h⟩ := h.resolve_left (by decide)
    exact transfer_error_inv i (w.busWrite_eq reg d ▸ h)
  · obtain ⟨_, rfl⟩ := World.transfer_ok (w.busWrite_eq reg d ▸ hb)
    have ip := pre_inv i
    have := coh_write ip.cache ip.chip ip.coh reg d hreq (by rw [← i.cache.hs]; exact hsz)
    exact ⟨this.2.1, this.1, this.2.2, ip.sched⟩

theorem bwrite_inv {w : World} (i : Inv w) (reg : Nat) (d : List UInt8) (hreq : reg ≠ 1) :
    (Shadow.bwrite true w reg d).Holds Inv := by
  refine Shadow.bwrite_cases (.inr trivial) (fun h => ?_) fun _ h0 hsz w1 hb => ?_
  · rcases h.resolve_left (by decide) with rfl | ⟨c, h⟩
    · rw [w.busWriteBuf_eq]; exact transfer_inv i (fun _ h => writeN_zero_stable h d) _
    · exact transfer_error_inv i (w.busWriteBuf_eq reg d ▸ h)
  · obtain ⟨_, rfl⟩ := World.transfer_ok (w.busWriteBuf_eq reg d ▸ hb)
    have ip := pre_inv i
    have h0 : reg ≠ 0 := h0
    have := coh_store_writeN ip.cache ip.chip ip.coh reg d (by omega) (by rw [← i.cache.hs]; exact hsz)
    exact ⟨this.2.1, this.1, this.2.2, ip.sched⟩

theorem execG_inv (onCb : CbEvent → Handle → World → Outcome Handle)
    (hcb : ∀ e h w, Inv w → Inv (onCb e h w).world)
    (p : Prog α) (hp : p.All CohReq) (w : World) (i : Inv w) : Inv (execG true onCb p w).world := by
  refine execG_preserves (fun q hq w i => ?_) hcb p hp w i
  cases q with
  | sread reg n => exact sread_inv i reg n hq
  | rread reg => exact rread_inv i reg
  | swrite reg d => exact swrite_inv i reg d hq
  | bwrite reg d => exact bwrite_inv i reg d hq
  | bread reg n => exact busReadBuf_inv i reg n
  | rawbread reg n => exact busReadBuf_inv i reg n

theorem Inv.cbs {w : World} (i : Inv w) (cbs : List CbRec) : Inv { w with cbs := cbs } :=
  ⟨i.chip, i.cache, i.coh, i.sched⟩

def Cfg.CohOk (cfg : Cfg) : Prop :=
  cfg.cached = true ∧ ∀ e re, cfg.reactionFor e = some re → ∀ h, (re.run h).All CohReq

theorem exec_inv (cfg : Cfg) (hc : cfg.CohOk) (p : Prog α) (hp : p.All CohReq) (w : World) (i : Inv w) :
    Inv (exec cfg p w).world := by
  unfold exec
  rw [hc.1]
  refine execG_inv cfg.onCb (cfg.onCb_preserves (fun _ cbs i => i.cbs cbs) fun e re hr h w i => ?_) p hp w i
  rw [hc.1]
  exact execG_inv logCb (fun _ _ _ i => i.cbs _) (re.run h) (hc.2 e re hr h) w i

end Sx
