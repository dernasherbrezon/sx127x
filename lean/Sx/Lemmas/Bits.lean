/- Bit-level facts about bytes with free variables (no `bv_decide`): bit by bit, or as seen through a mask. -/
namespace Sx

/-- closes equalities between `UInt8` terms built from `&&&`, `|||` and literals -/
macro "byte_bits" : tactic => `(tactic| (
  apply UInt8.eq_of_toBitVec_eq
  simp only [UInt8.toBitVec_and, UInt8.toBitVec_or]
  ext i hi
  simp only [BitVec.getElem_and, BitVec.getElem_or]
  have hcases : i = 0 ∨ i = 1 ∨ i = 2 ∨ i = 3 ∨ i = 4 ∨ i = 5 ∨ i = 6 ∨ i = 7 := by omega
  rcases hcases with h | h | h | h | h | h | h | h <;> subst h <;> simp <;> decide))

theorem opmode_keep_80 (x y : UInt8) : (x &&& 0xc0 ||| y &&& 0x3f) &&& 0x80 = x &&& 0x80 := by byte_bits
theorem opmode_keep_40 (x y : UInt8) : (x &&& 0xc0 ||| y &&& 0x3f) &&& 0x40 = x &&& 0x40 := by byte_bits

theorem u8_and_not_self (x : UInt8) : x &&& ~~~ x = 0 := by
  apply UInt8.eq_of_toBitVec_eq
  simp

theorem low_nibble_shift (x y : UInt8) : ((x &&& 0x0f) ||| y) >>> 4 = y >>> 4 := by
  apply UInt8.toNat_inj.mp
  have h : (x.toNat &&& 15) >>> 4 = 0 := by
    rw [Nat.shiftRight_eq_div_pow, show (15 : Nat) = 2 ^ 4 - 1 from rfl, Nat.and_two_pow_sub_one_eq_mod]
    omega
  simp only [UInt8.toNat_shiftRight, UInt8.toNat_or, UInt8.toNat_and, Nat.shiftRight_or_distrib]
  show (x.toNat &&& 15) >>> 4 ||| y.toNat >>> 4 = y.toNat >>> 4
  rw [h, Nat.zero_or]

/-! masks applied to a byte built with `|||` and `&&&`: the constant parts meet first -/
theorem or_and_mask (x m k : UInt8) : (x ||| m) &&& k = (x &&& k) ||| (m &&& k) := by
  apply UInt8.eq_of_toBitVec_eq
  simp only [UInt8.toBitVec_and, UInt8.toBitVec_or, BitVec.and_or_distrib_right]
theorem or_mask_off (x : UInt8) {m k : UInt8} (h : m &&& k = 0) : (x ||| m) &&& k = x &&& k := by
  rw [or_and_mask, h, UInt8.or_zero]
theorem or_mask_on (x : UInt8) {m k : UInt8} (h : m &&& k ≠ 0) : (x ||| m) &&& k ≠ 0 := by
  rw [or_and_mask]; exact fun e => h (UInt8.or_eq_zero_iff.mp e).2
theorem and_mask (x : UInt8) {m k j : UInt8} (h : m &&& k = j) : (x &&& m) &&& k = x &&& j := by
  rw [UInt8.and_assoc, h]
theorem and_mask_keep (x : UInt8) {m k : UInt8} (h : m &&& k = k) : (x &&& m) &&& k = x &&& k := and_mask x h
theorem and_mask_off (x : UInt8) {m k : UInt8} (h : m &&& k = 0) : (x &&& m) &&& k = 0 := (and_mask x h).trans UInt8.and_zero

/-- a flag derived from the FIFO level, seen through a mask -/
theorem ite_or_mask (p : Prop) [Decidable p] (v m k : UInt8) :
    (if p then v ||| m else v) &&& k = (v &&& k) ||| (if p then m &&& k else 0) := by
  split
  · exact or_and_mask v m k
  · exact UInt8.or_zero.symm

theorem ite_ne_zero (p : Prop) [Decidable p] {m : UInt8} (hm : m ≠ 0) : (if p then m else 0) ≠ 0 ↔ p := by
  split <;> simp [*]

theorem and_not_ff (m : UInt8) : m &&& ~~~ (0xff : UInt8) = 0 := by
  have : ~~~ (0xff : UInt8) = 0 := by decide
  rw [this]; simp

/-- every property over all bytes is decided over the 256 bit patterns -/
theorem forall_byte (P : UInt8 → Prop) (h : ∀ b : BitVec 8, P ⟨b⟩) : ∀ x : UInt8, P x := fun x => h x.toBitVec

end Sx
