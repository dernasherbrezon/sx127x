import Sx.Exec
import Sx.Lemmas.Chip
/-
  The register cache against the chip: well-formedness, coherence, and what the two cache
  updates of the shadow layer (`store`, `dropPage`) do to them.
-/
namespace Sx
open Mem Chip

namespace Cache

def N : Nat := Gen.MAX_NUMBER_OF_REGISTERS

/-- shape of the shadow arrays, and: every address some page may change on its own is marked
    never-cache (obligation on the list installed by `sx127x_create`) -/
structure WF (k : Cache) : Prop where
  hs : k.sync.length = N
  hv : k.vals.length = N
  vol : ∀ a, a < N → Vol a = true → k.isIgnore a = true

def Coh (k : Cache) (c : Chip) : Prop := ∀ a, a < N → k.isCached a = true → k.vals.rd a = c.cell a

theorem not_cached_of_ignore {k : Cache} {a : Nat} (h : k.isIgnore a = true) : k.isCached a = false := by
  simp only [isIgnore, isCached, beq_iff_eq] at *
  rw [h]; decide

theorem not_vol_of_cached {k : Cache} (w : k.WF) {a : Nat} (ha : a < N) (h : k.isCached a = true) : Vol a = false := by
  cases hv : Vol a with
  | false => rfl
  | true =>
    have := not_cached_of_ignore (w.vol a ha hv)
    rw [this] at h; cases h

/-- the FIFO address is volatile, hence never cached -/
theorem WF.pos_of_not_ignore {k : Cache} (w : k.WF) {a : Nat} (h : k.isIgnore a = false) : 1 ≤ a := by
  cases a with
  | zero => rw [w.vol 0 (by decide) (by decide)] at h; cases h
  | succ m => omega

/-- the obligation on the generated never-cache list -/
theorem fresh_wf : Cache.fresh.WF := by
  refine ⟨by decide, by decide, ?_⟩
  decide +kernel

theorem fresh_coh (c : Chip) : Coh Cache.fresh c := by
  intro a ha h
  have : ∀ a, a < N → Cache.fresh.isCached a = false := by decide +kernel
  rw [this a ha] at h; cases h

theorem coh_stable {k : Cache} {c c' : Chip} (w : k.WF) (h : Coh k c) (s : Stable c c') : Coh k c' := by
  intro a ha hc
  rw [h a ha hc, s.cells a (not_vol_of_cached w ha hc)]

def put (k : Cache) (a : Nat) (v : UInt8) : Cache :=
  if k.isIgnore a then k else { vals := k.vals.wr a v, sync := k.sync.wr a (UInt8.ofNat Gen.SHADOW_CACHED) }

theorem store_cons (k : Cache) (a : Nat) (v : UInt8) (vs : List UInt8) :
    k.store a (v :: vs) = (k.put a v).store (a + 1) vs := by
  simp only [store, put]

theorem put_of_ignore {k : Cache} {a : Nat} (h : k.isIgnore a = true) (v : UInt8) : k.put a v = k :=
  if_pos h

theorem put_wf {k : Cache} (w : k.WF) (a : Nat) (v : UInt8) : (k.put a v).WF := by
  unfold put
  split
  · exact w
  · rename_i hi
    refine ⟨by simp [w.hs], by simp [w.hv], ?_⟩
    intro b hb hvb
    have := w.vol b hb hvb
    have hne : a ≠ b := by intro e; subst e; exact hi this
    simpa [isIgnore, rd_wr_ne _ _ _ _ hne] using this

theorem put_isCached {k : Cache} (a b : Nat) (v : UInt8) (hne : a ≠ b) : (k.put a v).isCached b = k.isCached b := by
  unfold put
  split
  · rfl
  · simp [isCached, rd_wr_ne _ _ _ _ hne]

theorem put_vals {k : Cache} (a b : Nat) (v : UInt8) (hne : a ≠ b) : (k.put a v).vals.rd b = k.vals.rd b := by
  unfold put
  split
  · rfl
  · simp [rd_wr_ne _ _ _ _ hne]

theorem put_self {k : Cache} (w : k.WF) (a : Nat) (v : UInt8) (ha : a < N) (h : (k.put a v).isCached a = true) :
    (k.put a v).vals.rd a = v := by
  unfold put at h ⊢
  split
  · rename_i hi
    rw [if_pos hi] at h
    rw [not_cached_of_ignore hi] at h; cases h
  · simp [rd_wr_same _ _ _ (show a < k.vals.length by rw [w.hv]; exact ha)]

theorem coh_put_upd {k : Cache} {c c' : Chip} (w : k.WF) (h : Coh k c) (a : Nat) (v : UInt8) (ha : a < N)
    (h1 : a ≠ 1) (u : Upd c c' a v) : Coh (k.put a v) c' := by
  intro b hb hc
  by_cases hab : a = b
  · subst hab
    rw [put_self w a v ha hc, u.self]
  · rw [put_vals a b v hab, u.others b (Ne.symm hab) (Or.inl h1)]
    rw [put_isCached a b v hab] at hc
    exact h b hb hc

end Cache
open Cache

theorem store_single_wf {k : Cache} (wk : k.WF) (a : Nat) (v : UInt8) : (k.store a [v]).WF := by
  rw [Cache.store_cons]; exact Cache.put_wf wk a v

/-- the invariant of the whole world: shapes, coherence, and only admissible events scheduled -/
structure Inv (w : World) : Prop where
  chip : w.chip.WF
  cache : w.cache.WF
  coh : Coh w.cache w.chip
  sched : ∀ e ∈ w.sched, e.2.Admissible = true

theorem writeN_zero_stable {c : Chip} (h : c.WF) (d : List UInt8) : Stable c (c.writeN 0 d) := by
  induction d generalizing c with
  | nil => exact Stable.refl h
  | cons v vs ih =>
    simp only [writeN, ↓reduceIte]
    have h1 : Stable c (c.write 0 v) := write_zero_stable h 0 v (by decide)
    exact Stable.trans h1 (ih h1.wf)

theorem readN_stable {c : Chip} (h : c.WF) (a n : Nat) : Stable c (c.readN a n).2 := by
  induction n generalizing c a with
  | zero => exact Stable.refl h
  | succ n ih =>
    simp only [readN]
    exact Stable.trans (read_stable h a) (ih (read_stable h a).wf _)

theorem N_eq : Cache.N = 0x71 := rfl

theorem coh_store_writeN {k : Cache} {c : Chip} (wk : k.WF) (wc : c.WF) (h : Coh k c) (reg : Nat) (d : List UInt8)
    (h2 : 2 ≤ reg) (hlen : reg + d.length ≤ Cache.N) :
    (k.store reg d).WF ∧ (c.writeN reg d).WF ∧ Coh (k.store reg d) (c.writeN reg d) := by
  induction d generalizing k c reg with
  | nil => exact ⟨wk, wc, h⟩
  | cons v vs ih =>
    have hreg : reg < Cache.N := by simp at hlen; omega
    have hmod : reg % 128 = reg := Nat.mod_eq_of_lt (by rw [N_eq] at hreg; omega)
    have hne0 : reg ≠ 0 := by omega
    rw [store_cons]
    simp only [writeN, if_neg hne0]
    have hl' : reg + 1 + vs.length ≤ Cache.N := by simp at hlen; omega
    rcases write_effect wc reg v with ⟨hv, _, s⟩ | u
    · rw [hmod] at hv
      rw [put_of_ignore (wk.vol reg hreg hv)]
      exact ih wk s.wf (coh_stable wk h s) (reg + 1) (by omega) hl'
    · rw [hmod] at u
      exact ih (put_wf wk reg v) u.wf (coh_put_upd wk h reg v hreg (by omega) u) (reg + 1) (by omega) hl'

theorem dropPage_sync (k : Cache) :
    k.dropPage.sync = (List.range (Gen.REGIRQFLAGS2 + 1 - Gen.REGFIFOADDRPTR)).foldl Cache.dropStep k.sync := by
  simp only [Cache.dropPage]

theorem dropStep_length (s : Mem) (i : Nat) : (Cache.dropStep s i).length = s.length := by
  unfold Cache.dropStep; dsimp only; split <;> simp

theorem foldl_dropStep_length (l : List Nat) (s : Mem) : (l.foldl Cache.dropStep s).length = s.length := by
  induction l generalizing s with
  | nil => rfl
  | cons x xs ih => rw [List.foldl, ih, dropStep_length]

/-- the sweep over the first `n` paged addresses turns CACHED into NOT_CACHED there and touches
    nothing else -/
theorem foldl_dropStep_rd (n : Nat) (s : Mem) (a : Nat) :
    ((List.range n).foldl Cache.dropStep s).rd a =
      if Gen.REGFIFOADDRPTR ≤ a ∧ a < Gen.REGFIFOADDRPTR + n ∧ s.rd a = 1 then 0 else s.rd a := by
  induction n with
  | zero => rw [if_neg (by omega)]; rfl
  | succ n ih =>
    rw [List.range_succ, List.foldl_append, List.foldl_cons, List.foldl_nil]
    generalize (List.range n).foldl Cache.dropStep s = t at ih
    by_cases ha : Gen.REGFIFOADDRPTR + n = a
    · -- the step at `a` itself: no earlier step touched it
      subst ha
      rw [if_neg (by omega)] at ih
      unfold Cache.dropStep
      dsimp only
      rw [ih]
      split
      · rename_i h1
        have h1 : s.rd (Gen.REGFIFOADDRPTR + n) = 1 := by simpa using h1
        rw [rd_wr_same _ _ _ (lt_length_of_rd_ne_zero (by rw [ih, h1]; decide)), if_pos ⟨by omega, by omega, h1⟩]
        rfl
      · rename_i h1
        rw [ih, if_neg (fun h => h1 (by simp [h.2.2]))]
    · have : (Cache.dropStep t n).rd a = t.rd a := by
        unfold Cache.dropStep
        dsimp only
        split
        · exact rd_wr_ne _ _ _ _ ha
        · rfl
      have hlt : a < Gen.REGFIFOADDRPTR + (n + 1) ↔ a < Gen.REGFIFOADDRPTR + n := by omega
      rw [this, ih]
      simp only [hlt]

theorem dropPage_rd (k : Cache) (a : Nat) :
    k.dropPage.sync.rd a = if inPage a = true ∧ k.sync.rd a = 1 then 0 else k.sync.rd a := by
  rw [dropPage_sync, foldl_dropStep_rd]
  have : (Gen.REGFIFOADDRPTR ≤ a ∧ a < Gen.REGFIFOADDRPTR + (Gen.REGIRQFLAGS2 + 1 - Gen.REGFIFOADDRPTR)) ↔ inPage a = true := by
    simp only [inPage, Bool.and_eq_true, decide_eq_true_eq]
    show 0x0d ≤ a ∧ a < 0x0d + (0x3f + 1 - 0x0d) ↔ _
    omega
  simp only [← this, and_assoc]

theorem dropPage_vals (k : Cache) : k.dropPage.vals = k.vals := by
  simp only [Cache.dropPage]

theorem dropPage_wf {k : Cache} (w : k.WF) : k.dropPage.WF := by
  refine ⟨?_, by rw [dropPage_vals]; exact w.hv, fun a ha hv => ?_⟩
  · rw [dropPage_sync, foldl_dropStep_length]; exact w.hs
  · have := w.vol a ha hv
    simp only [isIgnore, beq_iff_eq] at this ⊢
    rw [dropPage_rd, this, if_neg (fun h => by cases h.2)]

theorem dropPage_cached {k : Cache} {a : Nat} (h : k.dropPage.isCached a = true) :
    k.isCached a = true ∧ inPage a = false := by
  simp only [isCached, beq_iff_eq] at h ⊢
  rw [dropPage_rd] at h
  split at h
  · cases h
  · rename_i hn
    exact ⟨h, Bool.eq_false_iff.2 fun hp => hn ⟨hp, h⟩⟩

theorem coh_dropPage {k : Cache} {c : Chip} (h : Coh k c) : Coh k.dropPage c := fun a ha hc => by
  rw [dropPage_vals]
  exact h a ha (dropPage_cached hc).1

/-- a write to RegOpMode may re-map the paged addresses; none of them is cached after the drop -/
theorem coh_dropPage_upd {k : Cache} {c c' : Chip} (w : k.WF) (h : Coh k c) {v : UInt8} (u : Upd c c' 1 v) :
    Coh k.dropPage c' := fun a ha hc => by
  obtain ⟨hck, hpg⟩ := dropPage_cached hc
  have ha1 : a ≠ 1 := fun e => by
    rw [e, not_cached_of_ignore (w.vol 1 (by decide) (by decide))] at hck
    cases hck
  rw [dropPage_vals, u.others a ha1 (.inr hpg)]
  exact h a ha hck

theorem store_size (k : Cache) (reg : Nat) (d : List UInt8) : (k.store reg d).size = k.size := by
  induction d generalizing k reg with
  | nil => rfl
  | cons v vs ih =>
    rw [store_cons, ih]
    unfold Cache.put
    split
    · rfl
    · exact length_wr ..

theorem dropPage_size (k : Cache) : k.dropPage.size = k.size := by
  simp only [Cache.size, dropPage_sync, foldl_dropStep_length]

theorem prefixLen_le (k : Cache) (reg n : Nat) : k.prefixLen reg n ≤ n := by
  induction n generalizing reg with
  | zero => exact Nat.le_refl 0
  | succ n ih =>
    unfold Cache.prefixLen
    split
    · have := ih (reg + 1); omega
    · omega

theorem prefixLen_full {k : Cache} {reg n : Nat} (h : k.prefixLen reg n = n) :
    ∀ i, i < n → k.isCached (reg + i) = true := by
  induction n generalizing reg with
  | zero => intro i hi; omega
  | succ n ih =>
    intro i hi
    unfold Cache.prefixLen at h
    split at h
    · rename_i hc
      cases i with
      | zero => exact hc
      | succ j =>
        rw [show reg + (j + 1) = reg + 1 + j by omega]
        exact ih (by omega) j (by omega)
    · omega

theorem probeEnd_le {k n : Nat} (hk : k ≤ n) : Shadow.probeEnd k n ≤ n := by
  unfold Shadow.probeEnd; split <;> omega

end Sx
