import Sx.Lemmas.Safe
import Sx.Lemmas.FailFast
/-
  Sequencing with a postcondition: what `Prog.fwp` establishes about the way a statement ends may
  be used by the statements after it.
-/
namespace Sx
open DM

variable {α β : Type} {bad : UB → Prop} {G : CbEvent → Prop} {I : Handle → Prop}

theorem Prog.Safe_bind_post {p : Prog (Except Code α × Handle)}
    {g : Except Code α × Handle → Prog (Except Code β × Handle)} (Q : Except Code α × Handle → Prop) (f : Bool)
    (hp : p.Safe bad G I) (hq : p.fwp f (fun _ rh => Q rh))
    (hg : ∀ rh, I rh.2 → Q rh → (g rh).Safe bad G I) : (p.bind g).Safe bad G I := by
  induction p generalizing f with
  | ret a => exact hg a hp hq
  | ub u => exact hp
  | sread reg n k ih | bread reg n k ih | rawbread reg n k ih =>
    intro r hr
    cases r with
    | ok v => exact ih _ f (hp _ hr) (hq.1 v)
    | error c => exact ih _ true (hp _ hr) (hq.2 c)
  | rread reg k ih =>
    intro r
    cases r with
    | ok v => exact ih _ f (hp _) (hq.1 v)
    | error c => exact ih _ true (hp _) (hq.2 c)
  | swrite reg d k ih | bwrite reg d k ih =>
    intro r
    cases r with
    | ok v => exact ih _ f (hp _) hq.1
    | error c => exact ih _ true (hp _) (hq.2 c)
  | callback e h k ih => exact ⟨hp.1, fun h' hi => ih h' f (hp.2 h' hi) (hq.2 h')⟩

namespace DM

theorem SafeI_bind_post {x : DM α} {g : α → DM β} (Q : Except Code α → Handle → Prop)
    (hx : SafeI bad G I x) (hq : ∀ h, (x h).fwp false (fun _ rh => Q rh.1 rh.2))
    (hg : ∀ a h', I h' → Q (.ok a) h' → ((g a) h').Safe bad G I) : SafeI bad G I (x >>= g) := by
  constructor
  intro h hi
  show ((x h).bind _).Safe bad G I
  refine Prog.Safe_bind_post (fun rh => Q rh.1 rh.2) false (hx.s h hi) (hq h) ?_
  intro ⟨r, h'⟩ hi' hq'
  cases r with
  | ok a => exact hg a h' hi' hq'
  | error c => exact hi'

theorem SafeI_attempt_bind_post {x : DM α} {g : Except Code α → DM β} (Q : Except Code α → Handle → Prop)
    (hx : SafeI bad G I x) (hq : ∀ h, (x h).fwp false (fun _ rh => Q rh.1 rh.2))
    (hg : ∀ r h', I h' → Q r h' → ((g r) h').Safe bad G I) : SafeI bad G I (attempt x >>= g) := by
  refine SafeI_bind_post (fun r h' => ∀ r', r = .ok r' → Q r' h') (SafeI_attempt hx) ?_ ?_
  · intro h
    rw [fwp_attempt]
    refine Prog.fwp_mono _ _ _ _ ?_ (hq h)
    intro f' rh hq' r' e
    cases e
    exact hq'
  · intro r h' hi' hq'
    exact hg r h' hi' (hq' r rfl)

end DM
end Sx
