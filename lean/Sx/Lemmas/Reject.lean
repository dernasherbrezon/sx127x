import Sx.Lemmas.Wp
import Sx.Lemmas.WalkAttr
/-
  Reasoning about rejected calls (C10) and healthy-bus executions in general.

  `Prog.hwp p w Q`: on a bus where every transfer succeeds, whatever values the chip returns
  (demonic in the chip's answers), every way `p` can end satisfies `Q w' a`, where the ghost
  flag `w'` says whether a write request was issued (`w` = flag at the start).
-/
namespace Sx
open DM

def Prog.hwp : Prog α → Bool → (Bool → α → Prop) → Prop
  | .ret a, w, Q => Q w a
  | .ub _, _, _ => True
  | .sread _ _ k, w, Q => ∀ v, (k (.ok v)).hwp w Q
  | .rread _ k, w, Q => ∀ v, (k (.ok v)).hwp w Q
  | .swrite _ _ k, _, Q => (k (.ok ())).hwp true Q
  | .bwrite _ _ k, _, Q => (k (.ok ())).hwp true Q
  | .bread _ _ k, w, Q => ∀ v, (k (.ok v)).hwp w Q
  | .rawbread _ _ k, w, Q => ∀ v, (k (.ok v)).hwp w Q
  | .callback _ _ k, w, Q => ∀ h, (k h).hwp w Q

theorem Prog.hwp_bind (p : Prog α) (f : α → Prog β) (w : Bool) (Q : Bool → β → Prop) :
    (p.bind f).hwp w Q ↔ p.hwp w (fun w' a => (f a).hwp w' Q) := by
  induction p generalizing w with
  | ret a => exact Iff.rfl
  | ub u => exact Iff.rfl
  | sread reg n k ih | rread reg k ih | bread reg n k ih | rawbread reg n k ih | callback e h k ih =>
      exact forall_congr' fun v => ih _ _
  | swrite reg d k ih | bwrite reg d k ih => exact ih _ _

theorem Prog.hwp_mono (p : Prog α) (w : Bool) (Q Q' : Bool → α → Prop) (hq : ∀ w a, Q w a → Q' w a)
    (hp : p.hwp w Q) : p.hwp w Q' := by
  induction p generalizing w with
  | ret a => exact hq _ _ hp
  | ub u => trivial
  | sread reg n k ih | rread reg k ih | bread reg n k ih | rawbread reg n k ih | callback e h k ih =>
      exact fun v => ih _ _ (hp v)
  | swrite reg d k ih | bwrite reg d k ih => exact ih _ _ hp

theorem Prog.hwp_true (p : Prog α) (w : Bool) : p.hwp w (fun _ _ => True) := by
  induction p generalizing w with
  | ret a => trivial
  | ub u => trivial
  | sread reg n k ih | rread reg k ih | bread reg n k ih | rawbread reg n k ih | callback e h k ih =>
      exact fun v => ih _ w
  | swrite reg d k ih | bwrite reg d k ih => exact ih _ true

def writesP : List BusEv → List BusEv
  | [] => []
  | .w reg d r :: l => .w reg d r :: writesP l
  | .wb reg d r :: l => .wb reg d r :: writesP l
  | _ :: l => writesP l

theorem Prog.hwp_runP (p : Prog α) (w : Bool) (Q : Bool → α → Prop) (hp : p.hwp w Q)
    (s s' : PState) (a : α) (hr : runP p s = .done a s') :
    ∃ w', Q w' a ∧ (w' = false → w = false ∧ writesP s'.bus = writesP s.bus) := by
  induction p generalizing w s with
  | ret a0 => simp only [runP] at hr; cases hr; exact ⟨w, hp, fun e => ⟨e, rfl⟩⟩
  | ub u => simp [runP] at hr
  | sread reg n k ih | rread reg k ih | bread reg n k ih | rawbread reg n k ih | callback e h k ih =>
    simp only [runP] at hr
    obtain ⟨w', hq, hw⟩ := ih _ w (hp _) _ hr
    exact ⟨w', hq, fun e => ⟨(hw e).1, (hw e).2⟩⟩
  | swrite reg d k ih | bwrite reg d k ih =>
    simp only [runP] at hr
    obtain ⟨w', hq, hw⟩ := ih _ true hp _ hr
    exact ⟨w', hq, fun e => absurd (hw e).1 (by simp)⟩

/-- a return code that reports a refused call -/
def isReject (c : Code) : Prop := c = Gen.SX127X_ERR_INVALID_ARG ∨ c = Gen.SX127X_ERR_INVALID_STATE

instance (c : Code) : Decidable (isReject c) := by unfold isReject; exact inferInstance

/-- no write request, handle as before — whatever is returned -/
structure DM.Quiet (x : DM α) : Prop where
  q : ∀ h w, (x h).hwp w (fun w' rh => w' = w ∧ rh.2 = h)

/-- never returns a refusal (on a healthy bus) -/
structure DM.NoRej (x : DM α) : Prop where
  q : ∀ h w, (x h).hwp w (fun _ rh => ∀ c, rh.1 = .error c → ¬isReject c)

/-- a refusal means: nothing written, handle unchanged -/
structure DM.RC (x : DM α) : Prop where
  q : ∀ h, (x h).hwp false (fun w' rh => ∀ c, rh.1 = .error c → isReject c → w' = false ∧ rh.2 = h)

namespace DM

theorem hwp_bind' (x : DM α) (f : α → DM β) (h : Handle) (w : Bool) (Q : Bool → Except Code β × Handle → Prop) :
    ((x >>= f) h).hwp w Q ↔ (x h).hwp w (fun w' rh => match rh.1 with
      | .ok a => (f a rh.2).hwp w' Q
      | .error c => Q w' (.error c, rh.2)) := by
  show ((x h).bind _).hwp w Q ↔ _
  rw [Prog.hwp_bind]
  apply Iff.intro <;> intro hp <;> refine Prog.hwp_mono _ _ _ _ ?_ hp <;> intro w' ⟨r, h'⟩ hq <;> cases r <;> exact hq

theorem hwp_pure (a : α) (h : Handle) (w Q) : ((pure a : DM α) h).hwp w Q ↔ Q w (.ok a, h) := Iff.rfl
theorem hwp_fail (c : Code) (h : Handle) (w) (Q : Bool → Except Code α × Handle → Prop) :
    ((fail c : DM α) h).hwp w Q ↔ Q w (.error c, h) := Iff.rfl
theorem hwp_getH (h : Handle) (w Q) : (getH h).hwp w Q ↔ Q w (.ok h, h) := Iff.rfl
theorem hwp_swrite (reg : Nat) (d : List UInt8) (h : Handle) (w Q) : (swrite reg d h).hwp w Q ↔ Q true (.ok (), h) :=
  Iff.rfl
theorem hwp_ub (u : UB) (h : Handle) (w) (Q : Bool → Except Code α × Handle → Prop) :
    ((DM.ub u : DM α) h).hwp w Q ↔ True := Iff.rfl

theorem Quiet_pure (a : α) : Quiet (pure a : DM α) := ⟨fun _ _ => ⟨rfl, rfl⟩⟩
theorem Quiet_pure' (a : α) : Quiet (pure' a : DM α) := ⟨fun _ _ => ⟨rfl, rfl⟩⟩
theorem Quiet_fail (c : Code) : Quiet (fail c : DM α) := ⟨fun _ _ => ⟨rfl, rfl⟩⟩
theorem Quiet_ub (u : UB) : Quiet (DM.ub u : DM α) := ⟨fun _ _ => trivial⟩
theorem Quiet_getH : Quiet getH := ⟨fun _ _ => ⟨rfl, rfl⟩⟩
theorem Quiet_rread (reg : Nat) : Quiet (rread reg) := ⟨fun _ _ _ => ⟨rfl, rfl⟩⟩
theorem Quiet_sread (reg n : Nat) : Quiet (sread reg n) := ⟨fun _ _ _ => ⟨rfl, rfl⟩⟩
theorem Quiet_bread (reg n : Nat) : Quiet (bread reg n) := ⟨fun _ _ _ => ⟨rfl, rfl⟩⟩
theorem Quiet_rawbread (reg n : Nat) : Quiet (rawbread reg n) := ⟨fun _ _ _ => ⟨rfl, rfl⟩⟩
theorem Quiet_ofExcept (r : Except Code α) : Quiet (ofExcept r) := by cases r <;> exact ⟨fun _ _ => ⟨rfl, rfl⟩⟩
theorem Quiet_bind {x : DM α} {f : α → DM β} (hx : Quiet x) (hf : ∀ a, Quiet (f a)) : Quiet (x >>= f) := by
  constructor
  intro h w
  rw [hwp_bind']
  refine Prog.hwp_mono _ _ _ _ ?_ (hx.q h w)
  intro w' ⟨r, h'⟩ ⟨e1, e2⟩
  cases e1; cases e2
  cases r with
  | ok a => exact (hf a).q _ _
  | error c => exact ⟨rfl, rfl⟩
theorem Quiet_attempt {x : DM α} (hx : Quiet x) : Quiet (attempt x) := by
  constructor
  intro h w
  show ((x h).bind _).hwp w _
  rw [Prog.hwp_bind]
  refine Prog.hwp_mono _ _ _ _ ?_ (hx.q h w)
  intro w' ⟨r, h'⟩ e
  exact e
theorem Quiet_ite {c : Prop} [Decidable c] {x y : DM α} (hx : Quiet x) (hy : Quiet y) : Quiet (if c then x else y) := by
  split <;> assumption

theorem NoRej_pure (a : α) : NoRej (pure a : DM α) := ⟨fun _ _ c e => by cases e⟩
theorem NoRej_pure' (a : α) : NoRej (pure' a : DM α) := ⟨fun _ _ c e => by cases e⟩
theorem NoRej_fail (c : Code) (hc : ¬isReject c) : NoRej (fail c : DM α) := ⟨fun _ _ c' e => by cases e; exact hc⟩
theorem NoRej_ub (u : UB) : NoRej (DM.ub u : DM α) := ⟨fun _ _ => trivial⟩
theorem NoRej_getH : NoRej getH := ⟨fun _ _ c e => by cases e⟩
theorem NoRej_setH (h : Handle) : NoRej (setH h) := ⟨fun _ _ c e => by cases e⟩
theorem NoRej_modH (f : Handle → Handle) : NoRej (modH f) := ⟨fun _ _ c e => by cases e⟩
theorem NoRej_cb (e : CbEvent) : NoRej (cb e) := ⟨fun _ _ _ c e => by cases e⟩
theorem NoRej_rread (reg : Nat) : NoRej (rread reg) := ⟨fun _ _ _ c e => by cases e⟩
theorem NoRej_sread (reg n : Nat) : NoRej (sread reg n) := ⟨fun _ _ _ c e => by cases e⟩
theorem NoRej_bread (reg n : Nat) : NoRej (bread reg n) := ⟨fun _ _ _ c e => by cases e⟩
theorem NoRej_rawbread (reg n : Nat) : NoRej (rawbread reg n) := ⟨fun _ _ _ c e => by cases e⟩
theorem NoRej_swrite (reg : Nat) (d : List UInt8) : NoRej (swrite reg d) := ⟨fun _ _ c e => by cases e⟩
theorem NoRej_bwrite (reg : Nat) (d : List UInt8) : NoRej (bwrite reg d) := ⟨fun _ _ c e => by cases e⟩
theorem NoRej_bind {x : DM α} {f : α → DM β} (hx : NoRej x) (hf : ∀ a, NoRej (f a)) : NoRej (x >>= f) := by
  constructor
  intro h w
  rw [hwp_bind']
  refine Prog.hwp_mono _ _ _ _ ?_ (hx.q h w)
  intro w' ⟨r, h'⟩ hq
  cases r with
  | ok a => exact (hf a).q h' w'
  | error c => exact fun c' e => by cases e; exact hq c rfl
theorem NoRej_attempt (x : DM α) : NoRej (attempt x) := by
  constructor
  intro h w
  show ((x h).bind _).hwp w _
  rw [Prog.hwp_bind]
  refine Prog.hwp_mono _ _ _ _ ?_ (Prog.hwp_true (x h) w)
  intro w' ⟨r, h'⟩ _ c e
  cases e
theorem NoRej_ofExcept (r : Except Code α) (hr : ∀ c, r = .error c → ¬isReject c) : NoRej (ofExcept r) := by
  cases r with
  | ok a => exact ⟨fun _ _ c e => by cases e⟩
  | error c => exact ⟨fun _ _ c' e => by cases e; exact hr c rfl⟩
theorem NoRej_ite {c : Prop} [Decidable c] {x y : DM α} (hx : NoRej x) (hy : NoRej y) : NoRej (if c then x else y) := by
  split <;> assumption

theorem RC_of_norej {x : DM α} (hx : NoRej x) : RC x :=
  ⟨fun h => Prog.hwp_mono _ _ _ _ (fun _ _ hq c e r => absurd r (hq c e)) (hx.q h false)⟩
theorem RC_of_quiet {x : DM α} (hx : Quiet x) : RC x :=
  ⟨fun h => Prog.hwp_mono _ _ _ _ (fun _ _ hq _ _ _ => hq) (hx.q h false)⟩
theorem RC_fail (c : Code) : RC (fail c : DM α) := RC_of_quiet (Quiet_fail c)
theorem RC_ub (u : UB) : RC (DM.ub u : DM α) := RC_of_quiet (Quiet_ub u)
theorem RC_pure (a : α) : RC (pure a : DM α) := RC_of_quiet (Quiet_pure a)
theorem RC_bind_quiet {x : DM α} {f : α → DM β} (hx : Quiet x) (hf : ∀ a, RC (f a)) : RC (x >>= f) := by
  constructor
  intro h
  rw [hwp_bind']
  refine Prog.hwp_mono _ _ _ _ ?_ (hx.q h false)
  intro w' ⟨r, h'⟩ ⟨e1, e2⟩
  cases e1; cases e2
  cases r with
  | ok a => exact (hf a).q h'
  | error c => exact fun _ _ _ => ⟨rfl, rfl⟩
theorem RC_ite {c : Prop} [Decidable c] {x y : DM α} (hx : RC x) (hy : RC y) : RC (if c then x else y) := by
  split <;> assumption

theorem RC.runP {x : DM α} (hx : RC x) (h : Handle) (s s' : PState) (c : Code) (h' : Handle)
    (hr : runP (x h) s = .done (.error c, h') s') (hc : isReject c) :
    h' = h ∧ writesP s'.bus = writesP s.bus := by
  obtain ⟨w', hq, hw⟩ := Prog.hwp_runP _ _ _ (hx.q h) s s' _ hr
  obtain ⟨e1, e2⟩ := hq c rfl hc
  exact ⟨e2, (hw e1).2⟩

end DM

/-- what C10 asks of one call under plain execution from a chip state -/
def RejectClean (x : DM α) (h : Handle) (chip : Chip) : Prop :=
  ∀ c h' s', runP (x h) ⟨chip, [], []⟩ = .done (.error c, h') s' → isReject c → h' = h ∧ writesP s'.bus = []

theorem RC.clean {x : DM α} (hx : RC x) (h : Handle) (chip : Chip) : RejectClean x h chip :=
  fun c h' s' hr hc => hx.runP h ⟨chip, [], []⟩ s' c h' hr hc

theorem RejectClean.api {x : DM α} {h : Handle} {chip : Chip} (hx : RejectClean x h chip) (o : α → Out) :
    RejectClean (do let a ← x; pure (o a)) h chip := by
  intro c h' s' hr hc
  have : runP (x h) ⟨chip, [], []⟩ = .done (.error c, h') s' := by
    have e : (do let a ← x; pure (o a) : DM Out) h = (x h).bind (fun
        | (.ok a, h1) => (pure (o a) : DM Out) h1
        | (.error c, h1) => .ret (.error c, h1)) := rfl
    rw [e, runP_bind] at hr
    cases hx' : runP (x h) ⟨chip, [], []⟩ with
    | ub u s1 => rw [hx'] at hr; cases hr
    | done rh s1 =>
      rw [hx'] at hr
      obtain ⟨r, h1⟩ := rh
      cases r with
      | ok a => exact absurd hr (by intro e; cases e)
      | error c1 => simpa [runP] using hr
  exact hx c h' s' this hc

macro "quiet_step" : tactic => `(tactic| with_reducible first
  | intro _
  | apply DM.Quiet_bind | apply DM.Quiet_attempt | apply DM.Quiet_ite
  | exact DM.Quiet_pure _ | exact DM.Quiet_pure' _ | exact DM.Quiet_fail _ | exact DM.Quiet_ub _ | exact DM.Quiet_getH
  | exact DM.Quiet_rread _ | exact DM.Quiet_sread _ _ | exact DM.Quiet_bread _ _ | exact DM.Quiet_rawbread _ _
  | exact DM.Quiet_ofExcept _
  | assumption)

macro "norej_step" : tactic => `(tactic| first
  | with_reducible (first
    | intro _
    | apply DM.NoRej_bind | apply DM.NoRej_ite
    | exact DM.NoRej_pure _ | exact DM.NoRej_pure' _ | exact DM.NoRej_ub _ | exact DM.NoRej_getH | exact DM.NoRej_setH _
    | exact DM.NoRej_modH _ | exact DM.NoRej_cb _
    | exact DM.NoRej_rread _ | exact DM.NoRej_sread _ _ | exact DM.NoRej_bread _ _ | exact DM.NoRej_rawbread _ _
    | exact DM.NoRej_swrite _ _ | exact DM.NoRej_bwrite _ _
    | exact DM.NoRej_attempt _
    | assumption)
  | ((with_reducible apply DM.NoRej_fail); decide))

end Sx
