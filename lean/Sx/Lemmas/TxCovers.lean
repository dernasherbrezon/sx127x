import Sx.Lemmas.TxSteps
import Sx.Lemmas.FifoFsk
import Sx.Lemmas.Flags2
import Sx.Lemmas.Exec
/-
  The transmit environment `txE` (Sx/Lemmas/TxFifo.lean) covers the interpreter over the chip
  model: `tx_covers`.  Every `gwp` fact about `txE` therefore holds for every execution of the
  cached and the uncached build on a transmitting chip with any schedule of modulator events
  and any failing transfers.
-/
namespace Sx
open Mem Chip

/-- the chip while transmitting in FSK/OOK mode with FIFO content `f`: FSK page, FifoThreshold
    31, neither PayloadReady nor FifoOverrun stored, overflow counter `n0` -/
structure TxChip (n0 : Nat) (c : Chip) (f : List UInt8) : Prop where
  fifo : c.fifo = f
  fsk : c.isLora = false
  thr : c.fsk.rd 0x35 &&& 0x3f = 31
  flags : c.fsk.rd 0x3f &&& 0x14 = 0
  ovf : c.overflow = n0

theorem TxG.shift_shift (g : TxG) (k j : Nat) : (g.shift k).shift j = g.shift (k + j) := by
  unfold TxG.shift
  simp only [List.drop_drop, List.append_assoc, TxG.mk.injEq, and_true, true_and]
  rw [List.take_add]

theorem TxG.shift_zero (g : TxG) : g.shift 0 = g := by
  unfold TxG.shift; simp

theorem apply_txShift_nil (c : Chip) (hf : c.fifo = []) : Env.txShift.apply c = { c with underflow := c.underflow + 1 } := by
  show (match c.fifo with | [] => _ | v :: rest => _) = _
  rw [hf]
theorem apply_txShift_cons (c : Chip) (v rest) (hf : c.fifo = v :: rest) :
    Env.txShift.apply c = { c with fifo := rest, air := if c.air.length < 8192 then c.air ++ [v] else c.air } := by
  show (match c.fifo with | [] => _ | v :: rest => _) = _
  rw [hf]
theorem apply_txSent (c : Chip) : Env.txSent.apply c = { c with fsk := c.fsk.wr 0x3f (c.fsk.rd 0x3f ||| 0x08) } := rfl

theorem txchip_event {n0 c f} (h : TxChip n0 c f) (e : Env) (he : e = .txShift ∨ e = .txSent) :
    ∃ k, TxChip n0 (e.apply c) (f.drop k) := by
  rcases he with rfl | rfl
  · cases hf : c.fifo with
    | nil =>
      refine ⟨0, ?_⟩
      rw [apply_txShift_nil c hf]
      exact ⟨h.fifo, h.fsk, h.thr, h.flags, h.ovf⟩
    | cons v rest =>
      refine ⟨1, ?_⟩
      rw [apply_txShift_cons c v rest hf]
      refine ⟨?_, h.fsk, h.thr, h.flags, h.ovf⟩
      show rest = f.drop 1
      rw [← h.fifo, hf]; rfl
  · refine ⟨0, ?_⟩
    rw [apply_txSent, List.drop_zero]
    refine ⟨h.fifo, h.fsk, ?_, ?_, h.ovf⟩
    · show (c.fsk.wr 0x3f _).rd 0x35 &&& 0x3f = 31
      rw [rd_wr_ne _ _ _ _ (by decide)]; exact h.thr
    · show (c.fsk.wr 0x3f (c.fsk.rd 0x3f ||| 0x08)).rd 0x3f &&& 0x14 = 0
      rw [rd_wr]
      split
      · exact (or_mask_off _ rfl).trans h.flags
      · exact h.flags
theorem flags2_ok {n0 c f} (h : TxChip n0 c f) : TxFlagsOk c.flags2 f := by
  have hthr : (c.fsk.rd 0x35 &&& 0x3f).toNat = 31 := by rw [h.thr]; rfl
  -- PayloadReady and FifoOverrun are among the stored bits, which are both clear
  have stored : ∀ {k : UInt8}, 0x14 &&& k = k → c.fsk.rd 0x3f &&& k = 0 := fun hk => by
    rw [← and_mask _ hk, h.flags, UInt8.zero_and]
  refine ⟨?_, ?_, fun hz => ?_, fun hz => ?_⟩
  · rw [flags2_stored c rfl rfl rfl rfl]; exact stored rfl
  · rw [flags2_stored c rfl rfl rfl rfl]; exact stored rfl
  · have := mt (flags2_level c).mpr (fun hn => hn hz)
    rw [hthr, h.fifo] at this; omega
  · have := (flags2_empty c).mp hz
    rw [h.fifo] at this; exact List.length_eq_zero_iff.mp this

structure TxWorld (n0 : Nat) (cached : Bool) (w : World) (g : TxG) : Prop where
  chip : TxChip n0 w.chip g.fifo
  sched : ∀ e ∈ w.sched, e.2 = .txShift ∨ e.2 = .txSent
  cache : cached = true → w.cache.WF

/-- the relation between worlds and ghost states: the session is over or went wrong (then the
    environment promises nothing), or the world is a transmitting chip with the ghost FIFO -/
def txAbs (n0 : Nat) (cached : Bool) (w : World) (g : TxG) : Prop :=
  g.poison = true ∨ g.ended = true ∨ TxWorld n0 cached w g

theorem fold_tx {n0 : Nat} (P : Nat → Prop) [DecidablePred P] (l : List (Nat × Env)) (hl : ∀ e ∈ l, e.2 = .txShift ∨ e.2 = .txSent) :
    ∀ (c : Chip) (f : List UInt8), TxChip n0 c f →
      ∃ k, TxChip n0 (l.foldl (fun c e => if P e.1 then e.2.apply c else c) c) (f.drop k) := by
  induction l with
  | nil => intro c f h; exact ⟨0, by simpa using h⟩
  | cons e es ih =>
    intro c f h
    simp only [List.foldl_cons]
    by_cases hx : P e.1
    · rw [if_pos hx]
      obtain ⟨k1, h1⟩ := txchip_event h e.2 (hl e (List.mem_cons_self ..))
      obtain ⟨k2, h2⟩ := ih (fun e' he' => hl e' (List.mem_cons_of_mem _ he')) _ _ h1
      exact ⟨k1 + k2, by rw [← List.drop_drop]; exact h2⟩
    · rw [if_neg hx]
      exact ih (fun e' he' => hl e' (List.mem_cons_of_mem _ he')) _ _ h

theorem pre_tx {n0 cached w g} (hw : TxWorld n0 cached w g) :
    ∃ k, TxWorld n0 cached w.pre.1 (g.shift k) ∧ w.pre.1.cache = w.cache := by
  obtain ⟨k, hk⟩ := fold_tx (fun i => i = w.xfer) w.sched hw.sched w.chip g.fifo hw.chip
  exact ⟨k, ⟨hk, hw.sched, hw.cache⟩, rfl⟩

theorem busRead_flags_tx {n0 cached w g} (hw : TxWorld n0 cached w g) :
    ∃ k, TxWorld n0 cached (w.busRead 0x3f 1).2 (g.shift k) ∧ (w.busRead 0x3f 1).2.cache = w.cache ∧
      match (w.busRead 0x3f 1).1 with
      | .ok v => TxFlagsOk v.toUInt8 (g.shift k).fifo
      | .error _ => True := by
  obtain ⟨k, hk, hcache⟩ := pre_tx hw
  refine ⟨k, ?_⟩
  rw [w.busRead_eq]
  rcases w.transfer_cases (fun c => (be32 (c.readN 0x3f 1).1, (c.readN 0x3f 1).2)) (.r 0x3f 1) with ⟨c, e⟩ | e <;> rw [e]
  · exact ⟨⟨hk.chip, hk.sched, hk.cache⟩, hcache, trivial⟩
  · dsimp only
    rw [readN_one _ 0x3f (by decide)]
    simp only [show (0x3f % 128) = 0x3f from rfl, be32_single, peek_flags2 _ hk.chip.fsk]
    exact ⟨⟨hk.chip, hk.sched, hk.cache⟩, hcache, flags2_ok hk.chip⟩

theorem write_ack_tx {n0 c f} (h : TxChip n0 c f) (v : UInt8) (hv : v &&& 0x10 = 0) : TxChip n0 (c.write 0x3f v) f := by
  have hne : ¬(v &&& 0x10 ≠ 0) := fun hn => hn hv
  simp only [Chip.write, h.fsk, show (0x3f % 128) = 0x3f from rfl, show ¬(0x3f = 0) by decide, ↓reduceIte,
    Bool.false_eq_true, false_and, Bool.not_false, true_and, show ¬(0x3f = 0x3e) by decide, hne]
  split
  · refine ⟨h.fifo, h.fsk, ?_, ?_, h.ovf⟩
    · show (c.fsk.wr 0x3f _).rd 0x35 &&& 0x3f = 31
      rw [rd_wr_ne _ _ _ _ (by decide)]; exact h.thr
    · show (c.fsk.wr 0x3f (c.fsk.rd 0x3f &&& 0xfe)).rd 0x3f &&& 0x14 = 0
      rw [rd_wr]
      split
      · exact (and_mask_keep _ rfl).trans h.flags
      · exact h.flags
  · exact h

theorem busWrite_ack_tx {n0 cached w g} (hw : TxWorld n0 cached w g) (v : UInt8) (hv : v &&& 0x10 = 0) :
    ∃ k, TxWorld n0 cached (w.busWrite 0x3f [v]).2 (g.shift k) ∧ (w.busWrite 0x3f [v]).2.cache = w.cache := by
  obtain ⟨k, hk, hcache⟩ := pre_tx hw
  refine ⟨k, ?_⟩
  rw [w.busWrite_eq]
  rcases w.transfer_cases (fun c => ((), c.writeN 0x3f [v])) (.w 0x3f [v]) with ⟨c, e⟩ | e <;> rw [e]
  · exact ⟨⟨hk.chip, hk.sched, hk.cache⟩, hcache⟩
  · dsimp only
    rw [writeN_one]
    exact ⟨⟨write_ack_tx hk.chip v hv, hk.sched, hk.cache⟩, hcache⟩

theorem busWriteBuf_fifo_tx {n0 cached w g} (hw : TxWorld n0 cached w g) (d : List UInt8) :
    ∃ k, (w.busWriteBuf 0 d).2.cache = w.cache ∧
      match (w.busWriteBuf 0 d).1 with
      | .ok _ => (g.shift k).fifo.length + d.length ≤ 64 →
          TxWorld n0 cached (w.busWriteBuf 0 d).2 { g.shift k with fifo := (g.shift k).fifo ++ d, handed := (g.shift k).handed ++ d }
      | .error _ => TxWorld n0 cached (w.busWriteBuf 0 d).2 (g.shift k) := by
  obtain ⟨k, hk, hcache⟩ := pre_tx hw
  refine ⟨k, ?_⟩
  rw [w.busWriteBuf_eq]
  rcases w.transfer_cases (fun c => ((), c.writeN 0 d)) (.wb 0 d) with ⟨c, e⟩ | e <;> rw [e]
  · exact ⟨hcache, ⟨hk.chip, hk.sched, hk.cache⟩⟩
  · dsimp only
    refine ⟨hcache, fun hroom => ?_⟩
    have hroom' : w.pre.1.chip.fifo.length + d.length ≤ 64 := by rw [hk.chip.fifo]; exact hroom
    rw [writeN_fifo_fsk d _ hk.chip.fsk hroom']
    exact ⟨⟨by show w.pre.1.chip.fifo ++ d = _; rw [hk.chip.fifo], hk.chip.fsk, hk.chip.thr, hk.chip.flags, hk.chip.ovf⟩, hk.sched, hk.cache⟩

theorem txR_dead {g : TxG} (hd : ¬g.live) (q : Req) (a : Ans) : txE.R g q a g := by
  show txR g q a g
  unfold txR
  rw [if_pos (dead_of_not_live hd)]

theorem txAbs_dead {n0 cached} {g : TxG} (hd : ¬g.live) (w : World) : txAbs n0 cached w g :=
  (dead_of_not_live hd).elim Or.inl fun h => Or.inr (Or.inl h)

theorem txAbs_live {n0 cached w} {g : TxG} (hl : g.live) (ha : txAbs n0 cached w g) : TxWorld n0 cached w g :=
  of_live_abs hl ha

/-- the modulator events an operation did not reach happen right after it -/
theorem tx_after {n0 cached w g} (hw : TxWorld n0 cached w g) :
    ∃ k, TxChip n0 ({ w with chip := w.sched.foldl (fun ch e => if e.1 ≥ w.xfer then e.2.apply ch else ch) w.chip,
                             sched := [], faults := [] } : World).chip (g.fifo.drop k) ∧ (cached = true → w.cache.WF) :=
  let ⟨k, hk⟩ := fold_tx (fun i => i ≥ w.xfer) w.sched hw.sched w.chip g.fifo hw.chip
  ⟨k, hk, hw.cache⟩

theorem TxWorld.ignore_flags {n0 cached w} {g : TxG} (h : TxWorld n0 cached w g) (hc : cached = true) :
    ¬w.cache.isIgnore 0x3f = false := by
  rw [(h.cache hc).vol 0x3f (by decide) (by decide)]; decide

theorem TxWorld.irq {n0 cached w} {g : TxG} (h : TxWorld n0 cached w g) (v : UInt8) :
    TxWorld n0 cached w { g with irq := v } := ⟨h.chip, h.sched, h.cache⟩

/-- **the interpreter over the chip model is an instance of the transmit environment**: in
    either build, with any schedule of modulator events (`txShift`, `txSent`) before any
    transfer, any set of failing transfers and any application reaction inside callbacks -/
theorem tx_covers (n0 : Nat) (cached : Bool) (onCb : CbEvent → Handle → World → Outcome Handle) :
    Covers txE cached onCb (txAbs n0 cached) := by
  refine .of_req (fun q {w g r w'} ha hs => ?_) fun _ _ => ⟨_, rfl, Or.inr (Or.inl rfl)⟩
  by_cases hl : g.live
  case neg => exact ⟨g, txR_dead hl _ _, txAbs_dead hl _⟩
  have poison : ∀ a, txRLive g q a { g with poison := true } →
      ∃ g', txE.R g q a g' ∧ txAbs n0 cached w' g' :=
    fun a h => ⟨_, (txR_live hl _ _ _).mpr h, Or.inl rfl⟩
  cases q with
  | sread reg n => exact poison _ rfl
  | bread reg n => exact poison _ rfl
  | rawbread reg n => exact poison _ rfl
  | rread reg =>
    have hs : Shadow.rread cached w reg = .ok r w' := hs
    by_cases hreg : reg = 0x3f
    · subst hreg
      have hw := txAbs_live hl ha
      -- the address is never cached, so the call is the bus read
      have : r = (w.busRead 0x3f 1).1.map UInt32.toUInt8 ∧ w' = (w.busRead 0x3f 1).2 := by
        revert hs
        refine Shadow.rread_cases (M := fun s => s = .ok r w' → _) (.inr nofun)
          (fun hc hi _ => absurd hi (hw.ignore_flags hc)) (fun hs => ?_) fun hc hi _ _ _ _ => absurd hi (hw.ignore_flags hc)
        cases hs; exact ⟨rfl, rfl⟩
      obtain ⟨rfl, rfl⟩ := this
      obtain ⟨k, hk, _, hfl⟩ := busRead_flags_tx hw
      cases hr : (w.busRead 0x3f 1).1 with
      | error c =>
        refine ⟨g.shift k, (txR_live hl _ _ _).mpr ?_, Or.inr (Or.inr hk)⟩
        exact ⟨k, rfl⟩
      | ok v =>
        rw [hr] at hfl
        refine ⟨{ g.shift k with irq := v.toUInt8 }, (txR_live hl _ _ _).mpr ?_, Or.inr (Or.inr (hk.irq _))⟩
        exact ⟨k, rfl, hfl⟩
    · refine poison _ ?_
      unfold txRLive
      simp only [Req.ans, hreg, ↓reduceIte]
  | swrite reg d =>
    have hs : Shadow.swrite cached w reg d = .ok r w' := hs
    by_cases hc : reg = 0x3f ∧ d.length = 1 ∧ d.headD 0 &&& 0x10 = 0
    · obtain ⟨hreg, hlen, hv⟩ := hc
      subst hreg
      obtain ⟨v, rfl⟩ := List.length_eq_one_iff.mp hlen
      have hv' : v &&& 0x10 = 0 := hv
      have hw := txAbs_live hl ha
      obtain ⟨k, hk, hcache⟩ := busWrite_ack_tx hw v hv'
      refine ⟨g.shift k, (txR_live hl _ _ _).mpr ?_, Or.inr (Or.inr ?_)⟩
      · unfold txRLive
        simp only [Req.ans, List.length_singleton, List.headD_cons, hv', and_self, ↓reduceIte]
        exact ⟨k, rfl⟩
      · revert hs
        refine Shadow.swrite_cases (M := fun s => s = .ok r w' → _) (.inr nofun) (fun _ hs => ?_) fun hc _ w1 hb hs => ?_
        · cases hs; exact hk
        · cases hs
          rw [hb] at hk
          rw [if_neg (by decide)]
          exact ⟨hk.chip, hk.sched, fun _ => store_single_wf (hk.cache hc) _ _⟩
    · refine poison _ ?_
      unfold txRLive
      simp only [Req.ans, hc, ↓reduceIte]
  | bwrite reg d =>
    have hs : Shadow.bwrite cached w reg d = .ok r w' := hs
    by_cases hreg : reg = 0
    · subst hreg
      have hw := txAbs_live hl ha
      obtain ⟨k, hcache, hres⟩ := busWriteBuf_fifo_tx hw d
      -- the FIFO address is never stored, so the call is the bus write
      have hw' : w' = (w.busWriteBuf 0 d).2 ∧ r = (w.busWriteBuf 0 d).1 := by
        revert hs
        refine Shadow.bwrite_cases (M := fun s => s = .ok r w' → _) (.inr nofun) (fun _ hs => ?_)
          fun _ h0 _ _ _ => absurd rfl h0
        cases hs; exact ⟨rfl, rfl⟩
      obtain ⟨rfl, hr⟩ := hw'
      rw [← hr] at hres
      cases r with
      | error c =>
        refine ⟨g.shift k, (txR_live hl _ _ _).mpr ?_, Or.inr (Or.inr hres)⟩
        exact ⟨k, rfl⟩
      | ok u =>
        refine ⟨(g.shift k).put d, (txR_live hl _ _ _).mpr ⟨k, rfl⟩, ?_⟩
        unfold TxG.put
        split
        · rename_i hroom
          exact Or.inr (Or.inr (hres hroom))
        · exact Or.inl rfl
    · refine poison _ ?_
      unfold txRLive
      simp only [Req.ans, hreg, ↓reduceIte]

end Sx
