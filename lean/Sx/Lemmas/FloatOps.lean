import Sx.Lemmas.Rnd
import Sx.Model.Driver
/-
  The float operations of the driver in terms of `rnd`: what each does on finite operands, and the
  exactness, finiteness and error facts of binary32/binary64 rounding that the interval arguments
  about the driver's formulas use.
-/
namespace Sx
open Sx.Model

-- equality of floats as data, so that a closed float expression can be evaluated to its value by `decide +kernel`
deriving instance DecidableEq for F

namespace F

theorem mul_fin (f : Fmt) (x y : Rat) : F.mul f (.fin x) (.fin y) = F.round f (x * y) := rfl

theorem div_fin (f : Fmt) (x : Rat) {y : Rat} (hy : y ≠ 0) : F.div f (.fin x) (.fin y) = F.round f (x / y) :=
  if_neg hy

theorem add_fin (f : Fmt) (x y : Rat) : F.add f (.fin x) (.fin y) = F.round f (x + y) := rfl

theorem sub_fin (f : Fmt) (x y : Rat) : F.sub f (.fin x) (.fin y) = F.round f (x - y) := by
  rw [sub_eq_add_neg]; rfl

theorem ofNat_eq (f : Fmt) (n : Nat) : F.ofNat f n = F.round f (n : Rat) := rfl

theorem ofInt_eq (f : Fmt) (n : Int) : F.ofInt f n = F.round f (n : Rat) := rfl

theorem cvt_fin (f : Fmt) (q : Rat) : F.cvt f (.fin q) = F.round f q := rfl

theorem le_fin (x y : Rat) : F.le (.fin x) (.fin y) = decide (x ≤ y) := rfl

theorem abs_fin (q : Rat) : F.abs (.fin q) = .fin |q| := by
  show F.fin (if q < 0 then -q else q) = _
  split
  · rename_i h; rw [abs_of_neg h]
  · rename_i h; rw [abs_of_nonneg (not_lt.mp h)]

theorem fin_of_test {x : F} {P : Rat → Prop} [DecidablePred P]
    (h : (match x with | .fin p => decide (P p) | _ => false) = true) : ∃ p, x = .fin p ∧ P p := by
  cases x with
  | fin p => exact ⟨p, rfl, of_decide_eq_true h⟩
  | nan => cases h
  | inf s => cases h

theorem round_neg (f : Fmt) (q : Rat) : F.round f (-q) = F.neg (F.round f q) := by
  unfold F.round
  simp only [rnd_neg, neg_neg]
  rcases lt_trichotomy (rnd f.p f.emin q) 0 with h | h | h
  · have h' : ¬(-rnd f.p f.emin q < 0) := by linarith
    simp only [h, h', ↓reduceIte]
    split <;> simp [F.neg]
  · have h2 : ¬((2 : Rat) ^ (f.emax + 1) ≤ 0) := not_le.mpr (two_zpow_pos _)
    simp [h, h2, F.neg]
  · have h' : -rnd f.p f.emin q < 0 := by linarith
    have h'' : ¬(rnd f.p f.emin q < 0) := by linarith
    simp only [h', h'', ↓reduceIte]
    split <;> simp [F.neg]

theorem truncQ_of_nonneg {q : Rat} (h : 0 ≤ q) : F.truncQ q = ⌊q⌋ := if_neg (not_lt.mpr h)

theorem truncQ_neg (q : Rat) : F.truncQ (-q) = -F.truncQ q := by
  unfold F.truncQ
  rcases lt_trichotomy q 0 with h | h | h
  · rw [if_neg (by linarith), if_pos h, neg_neg]
  · rw [h, neg_zero, if_neg (lt_irrefl _)]
    show ⌊(0 : Rat)⌋ = -⌊(0 : Rat)⌋
    rw [Int.floor_zero, neg_zero]
  · rw [if_pos (by linarith), if_neg (by linarith), neg_neg]

theorem abs_truncQ_sub_lt (q : Rat) : |((F.truncQ q : Int) : Rat) - q| < 1 := by
  have key : ∀ x : Rat, 0 ≤ x → |((F.truncQ x : Int) : Rat) - x| < 1 := by
    intro x hx
    rw [truncQ_of_nonneg hx, abs_lt]
    exact ⟨by linarith [Int.lt_floor_add_one x], by linarith [Int.floor_le x]⟩
  rcases le_total 0 q with h | h
  · exact key q h
  · have := key (-q) (by linarith)
    rwa [truncQ_neg, Int.cast_neg, neg_sub_neg, abs_sub_comm] at this

end F

theorem floor_toNat (q : Rat) (h : 0 ≤ q) : ((⌊q⌋.toNat : Nat) : Rat) ≤ q ∧ q < ((⌊q⌋.toNat : Nat) : Rat) + 1 := by
  have : ((⌊q⌋.toNat : Nat) : Rat) = ((⌊q⌋ : Int) : Rat) := by
    exact_mod_cast Int.toNat_of_nonneg (Int.floor_nonneg.mpr h)
  rw [this]
  exact ⟨Int.floor_le q, Int.lt_floor_add_one q⟩

/-- C99 6.3.1.4 for an unsigned target: defined when the value is in `[0, 2^bits)` (and for the
    values in `(-1, 0)`, which no caller needs) -/
theorem toUInt_fin (bits : Nat) {q : Rat} (h0 : 0 ≤ q) (hb : q < (2 : Rat) ^ bits) :
    F.toUInt bits (.fin q) = some ⌊q⌋.toNat := by
  have h1 : ⌊q⌋ < (2 : Int) ^ bits := Int.floor_lt.mpr (by exact_mod_cast hb)
  simp only [F.toUInt, F.truncQ_of_nonneg h0, Int.floor_nonneg.mpr h0, h1, and_self, if_true]

/-- C99 6.3.1.4 for a signed target: defined when the value is in `(-2^(bits-1) - 1, 2^(bits-1))` -/
theorem toSInt_fin (bits : Nat) {q : Rat} (h1 : -(2 : Rat) ^ (bits - 1) - 1 < q) (h2 : q < (2 : Rat) ^ (bits - 1)) :
    F.toSInt bits (.fin q) = some (F.truncQ q) := by
  have hM : (0 : Int) < (2 : Int) ^ (bits - 1) := by positivity
  have ht : -((2 : Int) ^ (bits - 1)) ≤ F.truncQ q ∧ F.truncQ q < (2 : Int) ^ (bits - 1) := by
    rcases le_total 0 q with h | h
    · have := Int.floor_nonneg.mpr h
      have : ⌊q⌋ < (2 : Int) ^ (bits - 1) := Int.floor_lt.mpr (by exact_mod_cast h2)
      rw [F.truncQ_of_nonneg h]; omega
    · have := Int.floor_nonneg.mpr (neg_nonneg.mpr h)
      have : ⌊-q⌋ < (2 : Int) ^ (bits - 1) + 1 := Int.floor_lt.mpr (by push_cast; linarith)
      rw [← neg_neg q, F.truncQ_neg, F.truncQ_of_nonneg (neg_nonneg.mpr h)]; omega
  simp only [F.toSInt, ht, and_self, if_true]

theorem rnd_zero (p : Nat) (emin : Int) : rnd p emin 0 = 0 := if_pos rfl

theorem F.round_zero (f : Fmt) : F.round f 0 = .fin 0 := by
  unfold F.round
  simp only [rnd_zero, lt_self_iff_false, ↓reduceIte]
  rw [if_neg (not_le.mpr (two_zpow_pos _))]

theorem round_zero : F.round b32 0 = .fin 0 := F.round_zero b32

theorem round_fin (f : Fmt) (q : Rat) (hb : rnd f.p f.emin q < (2 : Rat) ^ (f.emax + 1)) (hpos : 0 ≤ rnd f.p f.emin q) :
    F.round f q = .fin (rnd f.p f.emin q) := by
  unfold F.round
  simp only
  rw [if_neg (not_lt.mpr hpos), if_neg (not_le.mpr hb)]

theorem round_rel (f : Fmt) (q : Rat) (hq : 0 < q) (hn : f.emin ≤ ilog2 q) (hb : q * 2 < (2 : Rat) ^ (f.emax + 1)) :
    F.round f q = .fin (rnd f.p f.emin q) ∧ |rnd f.p f.emin q - q| ≤ q * (2 : Rat) ^ (-(f.p : Int)) := by
  have herr := rnd_rel f.p f.emin q hq hn
  have habs := abs_le.mp herr
  have hu : q * (2 : Rat) ^ (-(f.p : Int)) ≤ q :=
    mul_le_of_le_one_right (le_of_lt hq) (zpow_le_one_of_nonpos₀ (by norm_num) (by omega))
  exact ⟨round_fin f q (by linarith) (by linarith), herr⟩

theorem round32 (q : Rat) (h1 : 1 ≤ q) (h2 : q ≤ (2 : Rat) ^ (100 : Int)) :
    F.round b32 q = .fin (rnd 24 (-126) q) ∧ |rnd 24 (-126) q - q| ≤ q * (2 : Rat) ^ (-(24 : Int)) :=
  round_rel b32 q (by linarith) (normal_of_one_le _ (by norm_num [b32]) q h1)
    (lt_of_le_of_lt (mul_le_mul_of_nonneg_right h2 (by norm_num)) (by norm_num [b32]))

theorem round32w (q : Rat) (h1 : (2 : Rat) ^ (-(100 : Int)) ≤ q) (h2 : q ≤ (2 : Rat) ^ (100 : Int)) :
    F.round b32 q = .fin (rnd 24 (-126) q) ∧ |rnd 24 (-126) q - q| ≤ q * (1 / 16777216) := by
  have hq : 0 < q := lt_of_lt_of_le (two_zpow_pos _) h1
  have := round_rel b32 q hq (le_trans (by norm_num [b32]) (le_ilog2 hq h1))
    (lt_of_le_of_lt (mul_le_mul_of_nonneg_right h2 (by norm_num)) (by norm_num [b32]))
  rwa [show (2 : Rat) ^ (-(b32.p : Int)) = 1 / 16777216 by norm_num [b32]] at this

/-- `10^±30` is well inside `2^±100`; the bounds are linear in `q`, the form the interval arguments use -/
theorem round32_near (q : Rat) (h1 : 1 / 1000000000000000000000000000000 ≤ q)
    (h2 : q ≤ 1000000000000000000000000000000) :
    ∃ r : Rat, F.round b32 q = .fin r ∧ q * (1 - 1 / 16777216) ≤ r ∧ r ≤ q * (1 + 1 / 16777216) := by
  obtain ⟨e, herr⟩ := round32w q (le_trans (by norm_num) h1) (le_trans h2 (by norm_num))
  have a := abs_le.mp herr
  exact ⟨_, e, by linarith, by linarith⟩

theorem round_dyadic (f : Fmt) (hp : 1 ≤ f.p) (m : Nat) (hm : m < 2 ^ f.p) (k : Int) (hk : f.emin ≤ k)
    (hk2 : (f.p : Int) + k ≤ f.emax + 1) :
    F.round f ((m : Rat) * (2 : Rat) ^ k) = .fin ((m : Rat) * (2 : Rat) ^ k) := by
  rcases Nat.eq_zero_or_pos m with rfl | h0
  · simp only [Nat.cast_zero, zero_mul]; exact F.round_zero f
  · have hm1 : (1 : Rat) ≤ (m : Rat) := by exact_mod_cast h0
    have hpos : 0 < (m : Rat) * (2 : Rat) ^ k := mul_pos (by linarith) (two_zpow_pos k)
    have hb : (m : Rat) * (2 : Rat) ^ k < (2 : Rat) ^ (f.emax + 1) :=
      calc (m : Rat) * (2 : Rat) ^ k < (2 : Rat) ^ (f.p : Int) * (2 : Rat) ^ k :=
            mul_lt_mul_of_pos_right (by rw [zpow_natCast]; exact_mod_cast hm) (two_zpow_pos k)
        _ = (2 : Rat) ^ ((f.p : Int) + k) := (zpow_add₀ (by norm_num) _ _).symm
        _ ≤ _ := zpow_le_zpow_right₀ (by norm_num) hk2
    have hex := rnd_dyadic_exact f.p hp f.emin m h0 hm k
      (le_trans hk (le_ilog2 hpos (le_mul_of_one_le_left (le_of_lt (two_zpow_pos k)) hm1)))
    rw [round_fin f _ (by rwa [hex]) (by rw [hex]; exact le_of_lt hpos), hex]

theorem round_nat (f : Fmt) (hp : 1 ≤ f.p) (hemin : f.emin ≤ 0) (hpe : (f.p : Int) ≤ f.emax + 1) (n : Nat)
    (h : n < 2 ^ f.p) : F.round f (n : Rat) = .fin (n : Rat) := by
  have := round_dyadic f hp n h 0 hemin (by omega)
  rwa [zpow_zero, mul_one] at this

theorem ofNat32 (n : Nat) (h : n < 2 ^ 24) : F.ofNat b32 n = .fin (n : Rat) :=
  round_nat b32 (by norm_num [b32]) (by norm_num [b32]) (by norm_num [b32]) n h

theorem ofNat32_exact (n : Nat) (_ : 0 < n) (h : n < 2 ^ 24) : F.ofNat b32 n = .fin (n : Rat) := ofNat32 n h

theorem round64_nat (n : Nat) (_ : 0 < n) (h : n < 2 ^ 53) : F.round b64 (n : Rat) = .fin (n : Rat) :=
  round_nat b64 (by norm_num [b64]) (by norm_num [b64]) (by norm_num [b64]) n h

/-- `k` and `k + 1 - 2^-j` are binary32 values (`hj`), so the monotone rounding keeps `x` between them -/
theorem rnd_between (x : Rat) (k j : Nat) (hk : 1 ≤ k) (hj : (k + 1) * 2 ^ j ≤ 2 ^ 24)
    (h1 : (k : Rat) ≤ x) (h2 : x ≤ (k : Rat) + 1 - 1 / 2 ^ j) :
    (k : Rat) ≤ rnd 24 (-126) x ∧ rnd 24 (-126) x ≤ (k : Rat) + 1 - 1 / 2 ^ j := by
  have hk1 : (1 : Rat) ≤ (k : Rat) := by exact_mod_cast hk
  have hj1 : 1 ≤ 2 ^ j := Nat.one_le_two_pow
  have hx : 0 < x := by linarith
  have hk24 : k + 1 ≤ 2 ^ 24 := le_trans (Nat.le_mul_of_pos_right _ (by omega)) hj
  constructor
  · have := rnd_mono 24 (by norm_num) (-126) (by linarith) h1
    rwa [rnd_nat_exact 24 (by norm_num) (-126) (by norm_num) k hk (by omega)] at this
  · have h2j : 2 * 1 ≤ (k + 1) * 2 ^ j := Nat.mul_le_mul (by omega) hj1
    have hy : (((k + 1) * 2 ^ j - 1 : Nat) : Rat) * (2 : Rat) ^ (-(j : Int)) = (k : Rat) + 1 - 1 / 2 ^ j := by
      rw [Nat.cast_sub (by omega), zpow_neg, zpow_natCast]
      push_cast
      field_simp
    have hy1 : (1 : Rat) ≤ (k : Rat) + 1 - 1 / 2 ^ j := by
      have : (1 : Rat) / 2 ^ j ≤ 1 := by
        rw [div_le_one (by positivity)]; exact_mod_cast hj1
      linarith
    have := rnd_dyadic_exact 24 (by norm_num) (-126) ((k + 1) * 2 ^ j - 1) (by omega) (by omega) (-(j : Int))
      (by rw [hy]; exact normal_of_one_le (-126) (by norm_num) _ hy1)
    rw [hy] at this
    rw [← this]
    exact rnd_mono 24 (by norm_num) (-126) hx h2

theorem div_between (x y : Rat) (hy : y ≠ 0) (k j : Nat) (hk : 1 ≤ k) (hj : (k + 1) * 2 ^ j ≤ 2 ^ 24)
    (h1 : (k : Rat) ≤ x / y) (h2 : x / y ≤ (k : Rat) + 1 - 1 / 2 ^ j) :
    ∃ r, F.div b32 (.fin x) (.fin y) = .fin r ∧ (k : Rat) ≤ r ∧ r < (k : Rat) + 1 ∧ r ≤ (k : Rat) + 1 - 1 / 2 ^ j := by
  have hk1 : (1 : Rat) ≤ (k : Rat) := by exact_mod_cast hk
  have hk24 : ((k + 1 : Nat) : Rat) ≤ ((2 ^ 24 : Nat) : Rat) :=
    Nat.cast_le.mpr (le_trans (Nat.le_mul_of_pos_right _ Nat.one_le_two_pow) hj)
  have hpos : (0 : Rat) < 1 / 2 ^ j := by positivity
  have h100 : x / y ≤ (2 : Rat) ^ (100 : Int) := by
    have : ((2 ^ 24 : Nat) : Rat) ≤ (2 : Rat) ^ (100 : Int) := by norm_num
    push_cast at hk24
    linarith
  obtain ⟨b1, b2⟩ := rnd_between _ k j hk hj h1 h2
  exact ⟨_, (F.div_fin b32 x hy).trans (round32 _ (by linarith) h100).1, b1, by linarith, b2⟩

theorem round_abs (y : Rat) (m : Int) (h0 : 0 ≤ y) (h1 : y ≤ (2 : Rat) ^ m) (hm : -125 ≤ m) (hm' : m ≤ 100) :
    ∃ r, F.round b32 y = .fin r ∧ 0 ≤ r ∧ |r - y| ≤ (2 : Rat) ^ (m - 24) ∧
      ∀ N : Nat, 0 < N → N < 2 ^ 24 → y ≤ N → r ≤ N := by
  have herr : |rnd 24 (-126) y - y| ≤ (2 : Rat) ^ (m - 24) := by
    rcases eq_or_lt_of_le h0 with rfl | hy
    · rw [rnd_zero]; simpa using le_of_lt (two_zpow_pos _)
    · have hl : ilog2 y < m + 1 :=
        ilog2_lt_of_lt_zpow hy (lt_of_le_of_lt h1 (zpow_lt_zpow_right₀ (by norm_num) (by omega)))
      have he : ulpExp 24 (-126) y ≤ m - 23 := by unfold ulpExp; omega
      calc _ ≤ (2 : Rat) ^ ulpExp 24 (-126) y / 2 := rnd_err 24 (-126) y hy
        _ ≤ (2 : Rat) ^ (m - 23) / 2 := by
            apply div_le_div_of_nonneg_right (zpow_le_zpow_right₀ (by norm_num) he) (by norm_num)
        _ = _ := by rw [show m - 23 = (m - 24) + 1 by ring, zpow_add_one₀ (by norm_num)]; ring
  have hnn : 0 ≤ rnd 24 (-126) y := by
    rcases eq_or_lt_of_le h0 with rfl | hy
    · rw [rnd_zero]
    · exact rnd_nonneg 24 (-126) hy
  have hsq : ∀ N : Nat, 0 < N → N < 2 ^ 24 → y ≤ N → rnd 24 (-126) y ≤ N := by
    intro N hN hN24 hy
    rcases eq_or_lt_of_le h0 with rfl | hpos
    · rw [rnd_zero]; positivity
    · have := rnd_mono 24 (by norm_num) (-126) hpos hy
      rwa [rnd_nat_exact 24 (by norm_num) (-126) (by norm_num) N hN hN24] at this
  refine ⟨_, round_fin b32 y ?_ hnn, hnn, herr, hsq⟩
  show rnd 24 (-126) y < (2 : Rat) ^ ((127 : Int) + 1)
  have a := (abs_le.mp herr).2
  have b1 : (2 : Rat) ^ (m - 24) ≤ (2 : Rat) ^ (100 : Int) := zpow_le_zpow_right₀ (by norm_num) (by omega)
  have b2 : (2 : Rat) ^ m ≤ (2 : Rat) ^ (100 : Int) := zpow_le_zpow_right₀ (by norm_num) hm'
  have b3 : (2 : Rat) ^ (100 : Int) * 2 < (2 : Rat) ^ ((127 : Int) + 1) := by norm_num
  linarith

theorem osc_value : F.ofBits32 Gen.SX127x_OSCILLATOR_FREQUENCY_bits = .fin 32000000 := by
  unfold F.ofBits32
  have : (Gen.SX127x_OSCILLATOR_FREQUENCY_bits : UInt32).toNat = 1274291200 := by decide
  simp only [this]
  norm_num

theorem fstep_value : F.ofBits32 Gen.SX127x_FSTEP_bits = .fin (32000000 / 524288) := by
  unfold F.ofBits32
  have : (Gen.SX127x_FSTEP_bits : UInt32).toNat = 1114907648 := by decide
  simp only [this]
  norm_num

theorem shift19 (f : UInt64) (h2 : f.toNat ≤ 1020000000) : (f <<< 19).toNat = f.toNat * 524288 := by
  rw [UInt64.toNat_shiftLeft]
  have : (19 : UInt64).toNat % 64 = 19 := by decide
  rw [this, Nat.shiftLeft_eq]
  apply Nat.mod_eq_of_lt
  norm_num
  omega

/-- the rounding of `x` does not fall below the integer `⌊x⌋` (a value of the format), so `⌊rnd x⌋ ≥ ⌊x⌋` -/
theorem floor_round (f : Fmt) (hp : 1 ≤ f.p) (hemin : f.emin ≤ 0) (bits : Nat) (x : Rat) (h1 : 1 ≤ x)
    (h2 : x < (2 : Rat) ^ f.p) (hb : x * 2 ≤ (2 : Rat) ^ bits) (hmax : x * 2 < (2 : Rat) ^ (f.emax + 1)) :
    ∃ v : Nat, F.toUInt bits (F.round f x) = some v ∧ x < (v : Rat) + 1 ∧
      (v : Rat) ≤ x + x * (2 : Rat) ^ (-(f.p : Int)) := by
  obtain ⟨r, e⟩ := round_rel f x (by linarith) (normal_of_one_le _ hemin x h1) hmax
  have a := abs_le.mp e
  have hu : (2 : Rat) ^ (-(f.p : Int)) ≤ 2 ^ (-(1 : Int)) := zpow_le_zpow_right₀ (by norm_num) (by omega)
  have hu' : x * (2 : Rat) ^ (-(f.p : Int)) ≤ x * (1 / 2) := by
    rw [show (1 / 2 : Rat) = 2 ^ (-(1 : Int)) by norm_num]
    exact mul_le_mul_of_nonneg_left hu (by linarith)
  obtain ⟨n1, n2⟩ := floor_toNat x (by linarith)
  have hn0 : 0 < ⌊x⌋.toNat := by exact_mod_cast (by linarith : (0 : Rat) < (⌊x⌋.toNat : Rat))
  have hnp : ⌊x⌋.toNat < 2 ^ f.p := by exact_mod_cast lt_of_le_of_lt n1 h2
  have hsq := rnd_ge_nat f.p hp f.emin hemin x _ hn0 hnp n1
  have hQ0 : 0 ≤ rnd f.p f.emin x := le_trans (Nat.cast_nonneg _) hsq
  obtain ⟨q1, q2⟩ := floor_toNat _ hQ0
  refine ⟨_, by rw [r, toUInt_fin bits hQ0 (by linarith)], ?_, by linarith⟩
  have : ⌊x⌋.toNat < ⌊rnd f.p f.emin x⌋.toNat + 1 := by exact_mod_cast lt_of_le_of_lt hsq q2
  have : ((⌊x⌋.toNat : Nat) : Rat) + 1 ≤ (⌊rnd f.p f.emin x⌋.toNat : Rat) + 1 := by exact_mod_cast this
  linarith

theorem floor_rnd32 (bits : Nat) (x : Rat) (h1 : 1 ≤ x) (h2 : x < 16777216) (hb : x * 2 ≤ (2 : Rat) ^ bits) :
    ∃ v : Nat, F.toUInt bits (F.round b32 x) = some v ∧ x < (v : Rat) + 1 ∧ (v : Rat) ≤ x + x * (1 / 16777216) := by
  have := floor_round b32 (by norm_num [b32]) (by norm_num [b32]) bits x h1 (by norm_num [b32]; exact h2) hb
    (by norm_num [b32]; linarith)
  rwa [show (2 : Rat) ^ (-(b32.p : Int)) = 1 / 16777216 by norm_num [b32]] at this

theorem floor_rnd64 (bits : Nat) (x : Rat) (h1 : 1 ≤ x) (h2 : x < 9007199254740992) (hb : x * 2 ≤ (2 : Rat) ^ bits) :
    ∃ v : Nat, F.toUInt bits (F.round b64 x) = some v ∧ x < (v : Rat) + 1 ∧
      (v : Rat) ≤ x + x * (1 / 9007199254740992) := by
  have := floor_round b64 (by norm_num [b64]) (by norm_num [b64]) bits x h1 (by norm_num [b64]; exact h2) hb
    (lt_of_lt_of_le (by linarith : x * 2 < (2 : Rat) ^ (54 : Int)) (zpow_le_zpow_right₀ (by norm_num) (by norm_num [b64])))
  rwa [show (2 : Rat) ^ (-(b64.p : Int)) = 1 / 9007199254740992 by norm_num [b64]] at this

/-- every binary32 value is a binary64 value: `(double) x` is exact -/
theorem cvt64_of_bits32 (u : UInt32) (q : Rat) (h : F.ofBits32 u = .fin q) : F.round b64 q = .fin q := by
  unfold F.ofBits32 at h
  simp only [Int.cast_natCast] at h
  split at h
  · split at h <;> cases h
  have hm : u.toNat % 2 ^ 23 < 2 ^ 23 := Nat.mod_lt _ (by norm_num)
  have he : u.toNat / 2 ^ 23 % 256 < 256 := Nat.mod_lt _ (by norm_num)
  -- the magnitude is a dyadic with a numerator below 2^24 and an exponent in -149 .. 104
  have hmag : ∀ mag : Rat, mag = (if u.toNat / 2 ^ 23 % 256 = 0 then ((u.toNat % 2 ^ 23 : Nat) : Rat) * (2 : Rat) ^ (-149 : Int)
      else ((2 ^ 23 + u.toNat % 2 ^ 23 : Nat) : Rat) * (2 : Rat) ^ (((u.toNat / 2 ^ 23 % 256 : Nat) : Int) - 150)) →
      F.round b64 mag = .fin mag := by
    rintro _ rfl
    split
    · exact round_dyadic b64 (by norm_num [b64]) _ (by norm_num [b64]; omega) _ (by norm_num [b64]) (by norm_num [b64])
    · exact round_dyadic b64 (by norm_num [b64]) _ (by norm_num [b64]; omega) _ (by norm_num [b64]; omega)
        (by norm_num [b64]; omega)
  cases F.fin.inj h
  split
  · rw [F.round_neg, hmag _ rfl]; rfl
  · exact hmag _ rfl

end Sx
