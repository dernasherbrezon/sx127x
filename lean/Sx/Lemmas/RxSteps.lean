import Sx.Lemmas.RxFifo
/- The receive environment step by step: what `rxAnswer` admits per request, `Adv` (the demodulator has pushed bytes in
   between) as a preorder with what it keeps, and one `gwp` rule per request of the receive handler. -/
namespace Sx
open Sx.Model DM

section
variable {g g1 g' : RxG} {v : UInt8} {u : Unit} {n : Nat} {d : List UInt8}

theorem rxAnswer_flags : rxAnswer g g1 (.rread 0x3f) (.u8 (.ok v)) g' ↔ g' = { g1 with irq := v } ∧ RxFlagsOk v g1 := Iff.rfl
theorem rxAnswer_fifo : rxAnswer g g1 (.rread 0x00) (.u8 (.ok v)) g' ↔
    g' = g1.take 1 ∧ (1 ≤ g1.fifo.length → [v] = g1.fifo.take 1) := Iff.rfl
theorem rxAnswer_cfg1 : rxAnswer g g1 (.rread 0x30) (.u8 (.ok v)) g' ↔ g' = g1 ∧ v = g.cfg1 := Iff.rfl
theorem rxAnswer_cfg2 : rxAnswer g g1 (.rread 0x31) (.u8 (.ok v)) g' ↔ g' = g1 ∧ v = g.cfg2 := Iff.rfl
theorem rxAnswer_plen : rxAnswer g g1 (.rread 0x32) (.u8 (.ok v)) g' ↔ g' = g1 ∧ v = g.plen := Iff.rfl
theorem rxAnswer_irq1 : rxAnswer g g1 (.rread 0x3e) (.u8 (.ok v)) g' ↔ g' = g1 := Iff.rfl
theorem rxAnswer_rssi : rxAnswer g g1 (.rread 0x11) (.u8 (.ok v)) g' ↔ g' = g1 := Iff.rfl
theorem rxAnswer_ack : rxAnswer g g1 (.swrite 0x3f [v]) (.unit (.ok u)) g' ↔
    g' = if v &&& 0x10 ≠ 0 then g1.flush else g1 := Iff.rfl
theorem rxAnswer_ack1 : rxAnswer g g1 (.swrite 0x3e [v]) (.unit (.ok u)) g' ↔ g' = g1 := Iff.rfl
theorem rxAnswer_bread : rxAnswer g g1 (.bread 0 n) (.bytes (.ok d)) g' ↔
    g' = g1.take n ∧ d.length = n ∧ (n ≤ g1.fifo.length → d = g1.fifo.take n) := Iff.rfl
end

theorem RxFlagsOk.empty {v : UInt8} {g : RxG} (h : RxFlagsOk v g) : v &&& 0x40 ≠ 0 ↔ g.fifo = [] := h.2.2.2.2.2.1

namespace RxG
/-- facts the environment maintains by itself -/
structure Wf (g : RxG) : Prop where
  overPending : g.over = true → g.pending = []
  readyOver : g.ready = true → g.over = true
  crc : g.ready = true → g.crcFlag = (g.crcOn && g.crcGood)
  crcReady : g.crcFlag = true → g.ready = true
  room : g.fifo.length ≤ 63

/-- `g1` is `g` after the demodulator has pushed some bytes -/
def Adv (g g1 : RxG) : Prop := ∃ k fin, g.Adm k ∧ g1 = g.arrive k fin

structure Same (g g1 : RxG) : Prop where
  cfg1 : g1.cfg1 = g.cfg1
  cfg2 : g1.cfg2 = g.cfg2
  plen : g1.plen = g.plen
  crcGood : g1.crcGood = g.crcGood
  cbs : g1.cbs = g.cbs
  ended : g1.ended = g.ended
  poison : g1.poison = g.poison

theorem Adv.facts {g g1 : RxG} (ha : g.Adv g1) (hw : g.Wf) :
    g1.Wf ∧ g1.fifo ++ g1.pending = g.fifo ++ g.pending ∧ g.fifo.length ≤ g1.fifo.length ∧
    (g.over = true → g1.over = true ∧ g1.ready = g.ready ∧ g1.crcFlag = g.crcFlag ∧ g1.fifo = g.fifo) ∧
    ((g.over = true → g.ready = true) → (g1.over = true → g1.ready = true)) ∧ g1.taken = g.taken := by
  obtain ⟨k, fin, ⟨hk, hroom⟩, rfl⟩ := ha
  unfold arrive
  dsimp only
  have hstream : (g.fifo ++ g.pending.take k) ++ g.pending.drop k = g.fifo ++ g.pending := by
    rw [List.append_assoc, List.take_append_drop]
  have hlen : (g.fifo ++ g.pending.take k).length = g.fifo.length + k := by
    simp [List.length_take]; omega
  split
  · rename_i hc
    obtain ⟨_, hpend, hov⟩ := hc
    refine ⟨⟨fun _ => hpend, fun _ => rfl, fun _ => rfl, fun _ => rfl, by show (g.fifo ++ g.pending.take k).length ≤ 63; omega⟩,
      hstream, by show g.fifo.length ≤ (g.fifo ++ g.pending.take k).length; omega, ?_, fun _ _ => rfl, rfl⟩
    intro ho; rw [ho] at hov; cases hov
  · refine ⟨⟨?_, hw.readyOver, hw.crc, hw.crcReady, by show (g.fifo ++ g.pending.take k).length ≤ 63; omega⟩,
      hstream, by show g.fifo.length ≤ (g.fifo ++ g.pending.take k).length; omega, ?_, id, rfl⟩
    · intro ho
      show g.pending.drop k = []
      rw [hw.overPending ho]; simp
    · intro ho
      refine ⟨ho, rfl, rfl, ?_⟩
      show g.fifo ++ g.pending.take k = g.fifo
      rw [hw.overPending ho]; simp

theorem Adv.same {g g1 : RxG} (ha : g.Adv g1) : g.Same g1 := by
  obtain ⟨k, fin, _, rfl⟩ := ha
  unfold arrive
  dsimp only
  split <;> exact ⟨rfl, rfl, rfl, rfl, rfl, rfl, rfl⟩

theorem Adv.faulted {g g1 : RxG} (ha : g.Adv g1) : g1.faulted = g.faulted := by
  obtain ⟨k, fin, _, rfl⟩ := ha
  unfold arrive
  dsimp only
  split <;> rfl

theorem arrive_fifo (g : RxG) (k : Nat) (fin : Bool) : (g.arrive k fin).fifo = g.fifo ++ g.pending.take k := by
  unfold arrive; dsimp only; split <;> rfl
theorem arrive_pending (g : RxG) (k : Nat) (fin : Bool) : (g.arrive k fin).pending = g.pending.drop k := by
  unfold arrive; dsimp only; split <;> rfl

theorem Adv.refl {g : RxG} (hroom : g.fifo.length ≤ 63) : g.Adv g :=
  ⟨0, false, ⟨Nat.zero_le _, hroom⟩, by simp [arrive]⟩

/-- `k` bytes and then `j` bytes are `k + j` bytes; the joint arrival signals the end of the
    packet if the first does, and otherwise if the second does -/
theorem arrive_arrive (g : RxG) (k j : Nat) (f f' : Bool) :
    ∃ fin, (g.arrive k f).arrive j f' = g.arrive (k + j) fin := by
  by_cases h1 : f = true ∧ g.pending.drop k = [] ∧ g.over = false
  · have hd : g.pending.drop (k + j) = [] := by rw [← List.drop_drop, h1.2.1, List.drop_nil]
    refine ⟨true, ?_⟩
    unfold arrive
    simp only [h1, hd, and_self, ↓reduceIte, List.take_add, List.take_nil, List.append_nil, List.drop_nil,
      Bool.true_eq_false, and_false]
  · refine ⟨f', ?_⟩
    unfold arrive
    simp only [h1, ↓reduceIte, List.take_add, List.drop_drop, List.append_assoc]
    rfl

theorem Adv.trans {a b c : RxG} (h1 : a.Adv b) (h2 : b.Adv c) : a.Adv c := by
  obtain ⟨k, f, ⟨hk, hr⟩, rfl⟩ := h1
  obtain ⟨j, f', ⟨hj, hr'⟩, rfl⟩ := h2
  obtain ⟨fin, he⟩ := arrive_arrive a k j f f'
  rw [arrive_pending, List.length_drop] at hj
  rw [arrive_fifo, List.length_append, List.length_take, Nat.min_eq_left hk] at hr'
  exact ⟨k + j, fin, ⟨by omega, by omega⟩, he⟩

theorem take_facts (g : RxG) (n : Nat) (hn : n ≤ g.fifo.length) (hw : g.Wf) :
    (g.take n).Wf ∧ g.Same (g.take n) ∧ (g.take n).taken = g.taken ++ g.fifo.take n ∧
    (g.take n).fifo = g.fifo.drop n ∧ (g.take n).pending = g.pending ∧ (g.take n).over = g.over ∧
    (g.fifo.drop n ≠ [] → (g.take n).ready = g.ready ∧ (g.take n).crcFlag = g.crcFlag) := by
  unfold take
  by_cases h0 : n = 0
  · subst h0
    rw [if_pos rfl]
    exact ⟨hw, ⟨rfl, rfl, rfl, rfl, rfl, rfl, rfl⟩, by simp, rfl, rfl, rfl, fun _ => ⟨rfl, rfl⟩⟩
  rw [if_neg h0, if_pos hn]
  dsimp only
  have hroom : (g.fifo.drop n).length ≤ 63 := by have := hw.room; simp; omega
  split
  · rename_i he
    exact ⟨⟨hw.overPending, fun h => absurd h Bool.false_ne_true, fun h => absurd h Bool.false_ne_true, fun h => absurd h Bool.false_ne_true, hroom⟩,
      ⟨rfl, rfl, rfl, rfl, rfl, rfl, rfl⟩, rfl, rfl, rfl, rfl, fun hne => absurd he hne⟩
  · exact ⟨⟨hw.overPending, hw.readyOver, hw.crc, hw.crcReady, hroom⟩,
      ⟨rfl, rfl, rfl, rfl, rfl, rfl, rfl⟩, rfl, rfl, rfl, rfl, fun _ => ⟨rfl, rfl⟩⟩

theorem flush_facts (g : RxG) (hw : g.Wf) :
    g.flush.Wf ∧ g.Same g.flush ∧ g.flush.fifo = [] ∧ g.flush.ready = false ∧ g.flush.pending = g.pending := by
  exact ⟨⟨hw.overPending, fun h => absurd h Bool.false_ne_true, fun h => absurd h Bool.false_ne_true, fun h => absurd h Bool.false_ne_true, by show ([] : List UInt8).length ≤ 63; simp⟩,
    ⟨rfl, rfl, rfl, rfl, rfl, rfl, rfl⟩, rfl, rfl, rfl⟩

theorem Same.refl (g : RxG) : g.Same g := ⟨rfl, rfl, rfl, rfl, rfl, rfl, rfl⟩
theorem Same.trans {a b c : RxG} (h1 : a.Same b) (h2 : b.Same c) : a.Same c :=
  ⟨h2.cfg1.trans h1.cfg1, h2.cfg2.trans h1.cfg2, h2.plen.trans h1.plen,
   h2.crcGood.trans h1.crcGood, h2.cbs.trans h1.cbs, h2.ended.trans h1.ended, h2.poison.trans h1.poison⟩
theorem Same.live {g g1 : RxG} (h : g.Same g1) (hl : g.live) : g1.live := ⟨h.poison.trans hl.1, h.ended.trans hl.2⟩
theorem Adv.live {g g1 : RxG} (ha : g.Adv g1) (hl : g.live) : g1.live := ha.same.live hl
theorem Same.crcOn {g g1 : RxG} (h : g.Same g1) : g1.crcOn = g.crcOn := by unfold RxG.crcOn; rw [h.cfg1]
theorem Same.irq (g : RxG) (v : UInt8) : g.Same { g with irq := v } := ⟨rfl, rfl, rfl, rfl, rfl, rfl, rfl⟩
theorem Same.faulted (g : RxG) : g.Same { g with faulted := true } := ⟨rfl, rfl, rfl, rfl, rfl, rfl, rfl⟩
end RxG

/-- `g'` is `g` after arrivals and a failed transfer -/
def RxG.AdvF (g g' : RxG) : Prop := ∃ g1, g.Adv g1 ∧ g' = { g1 with faulted := true }

theorem RxG.Adv.advF {a b c : RxG} (h1 : a.Adv b) (h2 : b.AdvF c) : a.AdvF c :=
  let ⟨g1, h, e⟩ := h2
  ⟨g1, h1.trans h, e⟩

theorem rxR_live {g : RxG} (hl : g.live) (q a g') : rxE.R g q a g' ↔
    ((a.noErr ∧ ∃ g1, g.Adv g1 ∧ rxAnswer g g1 q a g') ∨ (¬a.noErr ∧ ¬FlushReq q ∧ g.AdvF g')) := by
  show rxR g q a g' ↔ _
  unfold rxR
  rw [if_neg (by simp [hl.1, hl.2])]
  constructor
  · rintro (⟨h, k, fin, hadm, hm⟩ | ⟨h1, h2, k, fin, hadm, rfl⟩)
    · exact Or.inl ⟨h, _, ⟨k, fin, hadm, rfl⟩, hm⟩
    · exact Or.inr ⟨h1, h2, _, ⟨k, fin, hadm, rfl⟩, rfl⟩
  · rintro (⟨h, _, ⟨k, fin, hadm, rfl⟩, hm⟩ | ⟨h1, h2, g1, ⟨k, fin, hadm, rfl⟩, rfl⟩)
    · exact Or.inl ⟨h, k, fin, hadm, hm⟩
    · exact Or.inr ⟨h1, h2, k, fin, hadm, rfl⟩

theorem rx_failed {g : RxG} (hl : g.live) {q a g'} (hr : rxE.R g q a g') (he : ¬a.noErr) : g.AdvF g' ∧ ¬FlushReq q := by
  rcases (rxR_live hl q a g').mp hr with ⟨hne, _⟩ | ⟨_, hnf, ha⟩
  · exact absurd hne he
  · exact ⟨ha, hnf⟩

theorem rx_answered {g : RxG} (hl : g.live) {q a g'} (hr : rxE.R g q a g') (he : a.noErr) :
    ∃ g1, g.Adv g1 ∧ rxAnswer g g1 q a g' := by
  rcases (rxR_live hl q a g').mp hr with ⟨_, h⟩ | ⟨hne, _⟩
  · exact h
  · exact absurd he hne

/-! Each transfer issued in a live state either fails, the ghost state having only advanced
  (`hfail`), or succeeds after some arrivals with the answer `rxAnswer` prescribes (`hok`). -/
section
variable {g : RxG} {h : Handle}

theorem gwp_rx_rread (hl : g.live) (reg : Nat)
    (hfail : ∀ c g', g.AdvF g' → Q g' (.error c) h)
    (hok : ∀ v g1 g', g.Adv g1 → rxAnswer g g1 (.rread reg) (.u8 (.ok v)) g' → Q g' (.ok v) h) :
    gwp rxE (rread reg) h g Q := by
  intro r g' hr
  cases r with
  | error c => exact hfail c g' (rx_failed hl hr id).1
  | ok v =>
    obtain ⟨g1, ha, hm⟩ := rx_answered hl hr trivial
    exact hok v g1 g' ha hm

theorem gwp_rx_flags (hl : g.live)
    (hfail : ∀ c g', g.AdvF g' → Q g' (.error c) h)
    (hok : ∀ v g1, g.Adv g1 → RxFlagsOk v g1 → Q { g1 with irq := v } (.ok v) h) :
    gwp rxE (rread Gen.REGIRQFLAGS2) h g Q :=
  gwp_rx_rread hl _ hfail fun v g1 _ ha hm => by
    obtain ⟨rfl, hfl⟩ := rxAnswer_flags.mp hm
    exact hok v g1 ha hfl

theorem gwp_rx_fifo (hl : g.live)
    (hfail : ∀ c g', g.AdvF g' → Q g' (.error c) h)
    (hok : ∀ v g1, g.Adv g1 → (1 ≤ g1.fifo.length → [v] = g1.fifo.take 1) → Q (g1.take 1) (.ok v) h) :
    gwp rxE (rread Gen.REGFIFO) h g Q :=
  gwp_rx_rread hl _ hfail fun v g1 _ ha hm => by
    obtain ⟨rfl, hv⟩ := rxAnswer_fifo.mp hm
    exact hok v g1 ha hv

/-- a register whose value the ghost state holds (the configuration registers of the header step:
    `hx` is `rxAnswer_cfg1.mp` and the like) -/
theorem gwp_rx_const (hl : g.live) {reg : Nat} {x : UInt8}
    (hx : ∀ {g1 g' v}, rxAnswer g g1 (.rread reg) (.u8 (.ok v)) g' → g' = g1 ∧ v = x)
    (hfail : ∀ c g', g.AdvF g' → Q g' (.error c) h) (hok : ∀ g1, g.Adv g1 → Q g1 (.ok x) h) :
    gwp rxE (rread reg) h g Q :=
  gwp_rx_rread hl _ hfail fun _ g1 _ ha hm => by
    obtain ⟨rfl, rfl⟩ := hx hm
    exact hok _ ha

/-- RegIrqFlags1 and RegRssiValue: any value, no effect on the ghost state -/
theorem gwp_rx_status (hl : g.live) {reg : Nat} (hreg : reg = 0x3e ∨ reg = 0x11)
    (hfail : ∀ c g', g.AdvF g' → Q g' (.error c) h) (hok : ∀ v g1, g.Adv g1 → Q g1 (.ok v) h) :
    gwp rxE (rread reg) h g Q :=
  gwp_rx_rread hl _ hfail fun v g1 _ ha hm => by
    rcases hreg with rfl | rfl
    · exact rxAnswer_irq1.mp hm ▸ hok v g1 ha
    · exact rxAnswer_rssi.mp hm ▸ hok v g1 ha

end

section
variable {g : RxG} {h : Handle} {Q : RxG → Except Code Unit → Handle → Prop}

theorem gwp_rx_swrite (hl : g.live) (reg : Nat) (d : List UInt8)
    (hfail : ∀ c g', ¬FlushReq (.swrite reg d) → g.AdvF g' → Q g' (.error c) h)
    (hok : ∀ g1 g', g.Adv g1 → rxAnswer g g1 (.swrite reg d) (.unit (.ok ())) g' → Q g' (.ok ()) h) :
    gwp rxE (swrite reg d) h g Q := by
  intro r g' hr
  cases r with
  | error c => exact hfail c g' (rx_failed hl hr id).2 (rx_failed hl hr id).1
  | ok u =>
    obtain ⟨g1, ha, hm⟩ := rx_answered hl hr trivial
    exact hok g1 g' ha hm

/-- the handler writes back the flags it has read: FifoOverrun is never among them -/
theorem gwp_rx_ack (hl : g.live) {v : UInt8} (hv : v &&& 0x10 = 0)
    (hfail : ∀ c g', g.AdvF g' → Q g' (.error c) h) (hok : ∀ g1, g.Adv g1 → Q g1 (.ok ()) h) :
    gwp rxE (swrite Gen.REGIRQFLAGS2 [v]) h g Q :=
  gwp_rx_swrite hl _ _ (fun c g' _ => hfail c g') fun g1 _ ha hm => by
    rw [rxAnswer_ack.mp hm, if_neg (fun hn => hn hv)]
    exact hok g1 ha

/-- the recovery write: the one transfer the environment never fails -/
theorem gwp_rx_flush (hl : g.live) {v : UInt8} (hv : v &&& 0x10 ≠ 0)
    (hok : ∀ g1, g.Adv g1 → Q g1.flush (.ok ()) h) :
    gwp rxE (swrite Gen.REGIRQFLAGS2 [v]) h g Q :=
  gwp_rx_swrite hl _ _ (fun _ _ hnf => absurd ⟨rfl, hv⟩ hnf) fun g1 _ ha hm => by
    rw [rxAnswer_ack.mp hm, if_pos hv]
    exact hok g1 ha

theorem gwp_rx_ack1 (hl : g.live) (v : UInt8)
    (hfail : ∀ c g', g.AdvF g' → Q g' (.error c) h) (hok : ∀ g1, g.Adv g1 → Q g1 (.ok ()) h) :
    gwp rxE (swrite Gen.REGIRQFLAGS1 [v]) h g Q :=
  gwp_rx_swrite hl _ _ (fun c g' _ => hfail c g') fun g1 _ ha hm => rxAnswer_ack1.mp hm ▸ hok g1 ha

end

section
variable {g : RxG} {h : Handle}

theorem gwp_rx_bread (hl : g.live) (n : Nat) {Q : RxG → Except Code (List UInt8) → Handle → Prop}
    (hfail : ∀ c g', g.AdvF g' → Q g' (.error c) h)
    (hok : ∀ d g1, g.Adv g1 → d.length = n → (n ≤ g1.fifo.length → d = g1.fifo.take n) → Q (g1.take n) (.ok d) h) :
    gwp rxE (bread Gen.REGFIFO n) h g Q := by
  intro r g' hr
  cases r with
  | error c => exact hfail c g' (rx_failed hl hr id).1
  | ok d =>
    obtain ⟨g1, ha, hm⟩ := rx_answered hl hr trivial
    obtain ⟨rfl, hdl, hdv⟩ := rxAnswer_bread.mp hm
    exact hok d g1 ha hdl hdv
end
end Sx
