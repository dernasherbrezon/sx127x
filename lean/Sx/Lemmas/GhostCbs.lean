import Sx.Lemmas.Ghost
import Sx.Lemmas.ShadowCbs
import Sx.Lemmas.Sys
/-
  The callback log of the interpreter follows the callback list of the ghost state: if the
  environment's answers never touch the ghost's callback list and its callback relation appends
  the event, then a refinement (`Covers`) can be strengthened by the equation between the two —
  which turns statements about the ghost's callbacks into statements about what an observation of
  `Sys.step` shows.
-/
namespace Sx

variable {G : Type}

/-- how an environment keeps its callback list (`bad` = states in which it promises nothing) -/
structure CbsEnv (E : GEnv G) where
  cbsOf : G → List CbEvent
  bad : G → Prop
  R_keeps : ∀ g q a g', E.R g q a g' → ¬bad g' → cbsOf g' = cbsOf g
  R_bad : ∀ g q a g', E.R g q a g' → bad g → bad g'
  C_appends : ∀ g e h h' g', E.C g e h h' g' → ¬bad g' → cbsOf g' = cbsOf g ++ [e]
  C_bad : ∀ g e h h' g', E.C g e h h' g' → bad g → bad g'

/-- the shape both FIFO environments have: a bad state answers every request with itself, and a
    callback appends its event and leaves the rest of the state alone -/
def CbsEnv.session {E : GEnv G} (cbsOf : G → List CbEvent) (bad : G → Prop)
    (R_keeps : ∀ g q a g', E.R g q a g' → ¬bad g' → cbsOf g' = cbsOf g)
    (R_bad : ∀ g q a g', E.R g q a g' → bad g → g' = g)
    (C_appends : ∀ g e h h' g', E.C g e h h' g' → cbsOf g' = cbsOf g ++ [e] ∧ (bad g → bad g')) : CbsEnv E where
  cbsOf := cbsOf
  bad := bad
  R_keeps := R_keeps
  R_bad g q a g' h hb := R_bad g q a g' h hb ▸ hb
  C_appends g e h h' g' hc _ := (C_appends g e h h' g' hc).1
  C_bad g e h h' g' hc := (C_appends g e h h' g' hc).2

/-- the ghost's callbacks are `pre` followed by what the world has logged in this operation -/
def CbsTie {E : GEnv G} (K : CbsEnv E) (pre : List CbEvent) (w : World) (g : G) : Prop :=
  K.bad g ∨ K.cbsOf g = pre ++ (w.cbs.map (·.ev)).reverse

theorem CbsTie.step {E : GEnv G} {K : CbsEnv E} {pre : List CbEvent} {w w' : World} {g g' : G} {q : Req} {a : Ans}
    (ht : CbsTie K pre w g) (hr : E.R g q a g') (hw : w'.cbs = w.cbs) : CbsTie K pre w' g' := by
  rcases ht with hb | ht
  · exact Or.inl (K.R_bad g q a g' hr hb)
  · by_cases hb' : K.bad g'
    · exact Or.inl hb'
    · right; rw [K.R_keeps g q a g' hr hb', ht, hw]

theorem covers_cbs (E : GEnv G) (K : CbsEnv E) (cached : Bool) (onCb : CbEvent → Handle → World → Outcome Handle)
    (abs : World → G → Prop) (cov : Covers E cached onCb abs)
    (honcb : ∀ e h w h' w', onCb e h w = .done h' w' → w'.cbs.map (·.ev) = e :: w.cbs.map (·.ev))
    (pre : List CbEvent) : Covers E cached onCb (fun w g => abs w g ∧ CbsTie K pre w g) := by
  refine .of_req (fun q w g r w' ⟨ha, ht⟩ hs => ?_) fun {w g e h h' w'} ⟨ha, ht⟩ ho => ?_
  · obtain ⟨g1, hr, ha'⟩ := cov.req q ha hs
    exact ⟨g1, hr, ha', ht.step hr (Shadow.step_cbs hs)⟩
  · have := cov.cb w g e h ha
    rw [ho] at this
    obtain ⟨g1, hr, ha'⟩ := this
    refine ⟨g1, hr, ha', ?_⟩
    rcases ht with hb | ht
    · exact Or.inl (K.C_bad g e h h' g1 hr hb)
    · by_cases hb' : K.bad g1
      · exact Or.inl hb'
      · right
        rw [K.C_appends g e h h' g1 hr hb', ht, honcb e h w h' w' ho, List.reverse_cons, List.append_assoc]

theorem CbsTie.cbs {E : GEnv G} {K : CbsEnv E} {pre : List CbEvent} {w : World} {g : G}
    (ht : CbsTie K pre w g) (hb : ¬K.bad g) : K.cbsOf g = pre ++ w.cbs.reverse.map (·.ev) := by
  rcases ht with hb' | ht
  · exact absurd hb' hb
  · rw [ht, List.map_reverse]

open Sx.Model DM in
theorem gwp_api_irq {E : GEnv G} (cap fuel : Nat) (h : Handle) (g : G)
    (hmod : h.activeModem = Gen.SX127x_MODULATION_FSK ∨ h.activeModem = Gen.SX127x_MODULATION_OOK)
    {P : G → Handle → Prop} (hp : DM.gwp E (fskOokHandleInterrupt fuel) h g (fun g' _ h' => P g' h')) :
    (Api.prog cap fuel .irq h).gwp E g (fun g' rh => P g' rh.2) := by
  show DM.gwp E (do let _ ← DM.attempt (handleInterrupt fuel); pure Out.none) h g (fun g' _ h' => P g' h')
  rw [gwp_bind, gwp_attempt]
  unfold handleInterrupt
  rw [gwp_bind, gwp_getH]
  dsimp only
  have hnl : ¬h.activeModem = Gen.SX127x_MODULATION_LORA := by
    rcases hmod with e | e <;> rw [e] <;> decide
  rw [if_neg hnl, if_pos hmod]
  exact gwp_mono E _ _ _ _ _ (fun g' r h' hq => hq) hp

/-- **One handler invocation through `Sys.step`.**  If the environment covers the interpreter and
    the start world is related to `g`, what `gwp` promises of the invocation holds of the step:
    it ends in a world `w` related to a ghost state satisfying the postcondition, and the new
    system state is `w` after the scheduled events the invocation did not reach. -/
theorem step_irq_gwp {E : GEnv G} {abs : World → G → Prop} (c : SysCfg) (cov : Covers E c.cached c.toCfg.onCb abs)
    {s : Sys} {h : Handle} (hh : s.handle = some h) (sched : List (Nat × Env)) (faults : List (Nat × Code)) {g : G}
    (ha : abs (s.start .irq sched faults) g) {P : G → Handle → Prop}
    (hp : (Api.prog c.cap c.fuel .irq h).gwp E g (fun g' rh => P g' rh.2)) :
    match s.step c (.api .irq sched faults) with
    | (s', .ret _ cbs _) => ∃ h' w g', s'.handle = some h' ∧ abs w g' ∧ P g' h' ∧ cbs = w.cbs.reverse ∧
        s'.world = { w with chip := w.sched.foldl (fun ch e => if e.1 ≥ w.xfer then e.2.apply ch else ch) w.chip,
                            sched := [], faults := [] }
    | (_, .ub _) => True
    | (_, _) => False := by
  rw [Sys.step_api, if_neg (by simp [hh]), hh, Option.getD_some]
  have hex : OutcomeP abs (fun g' rh => P g' rh.2) (exec c.toCfg (Api.prog c.cap c.fuel .irq h) (s.start .irq sched faults)) :=
    execG_gwp' E c.cached c.toCfg.onCb abs cov _ g _ hp _ ha
  generalize exec _ _ _ = out at hex ⊢
  cases out with
  | ub u w => trivial
  | done rh w =>
    obtain ⟨g', hab, hpost⟩ := hex
    exact ⟨rh.2, w, g', rfl, hab, hpost, rfl, rfl⟩

/-- the same with the callbacks the observation shows, when callbacks are only logged: they are
    what the invocation appended to the ghost's list -/
theorem step_irq_gwp_obs {E : GEnv G} (K : CbsEnv E) {abs : World → G → Prop} (c : SysCfg) (hlog : c.toCfg.onCb = logCb)
    (cov : Covers E c.cached logCb abs)
    {s : Sys} {h : Handle} (hh : s.handle = some h) (sched : List (Nat × Env)) (faults : List (Nat × Code)) {g : G}
    (ha : abs (s.start .irq sched faults) g) {P : G → Handle → Prop}
    (hp : (Api.prog c.cap c.fuel .irq h).gwp E g (fun g' rh => P g' rh.2)) :
    match s.step c (.api .irq sched faults) with
    | (s', .ret _ cbs _) => ∃ h' w g', s'.handle = some h' ∧ abs w g' ∧ P g' h' ∧
        (¬K.bad g' → K.cbsOf g' = K.cbsOf g ++ cbs.map (·.ev)) ∧
        s'.world = { w with chip := w.sched.foldl (fun ch e => if e.1 ≥ w.xfer then e.2.apply ch else ch) w.chip,
                            sched := [], faults := [] }
    | (_, .ub _) => True
    | (_, _) => False := by
  have := step_irq_gwp (abs := fun w g' => abs w g' ∧ CbsTie K (K.cbsOf g) w g') c
    (hlog ▸ covers_cbs E K c.cached logCb abs cov (fun e h w h' w' ho => by cases ho; rfl) (K.cbsOf g))
    hh sched faults ⟨ha, Or.inr (List.append_nil _).symm⟩ hp
  generalize s.step c (.api .irq sched faults) = st at this
  obtain ⟨s', o⟩ := st
  cases o with
  | ret r cbs bus =>
    obtain ⟨h', w, g', e1, ⟨hab, htie⟩, hq, rfl, e2⟩ := this
    exact ⟨h', w, g', e1, hab, hq, htie.cbs, e2⟩
  | _ => exact this

/-- what an operation showed, read off what it appended to the ghost's callback list -/
theorem shown_eq {pre m l x : List CbEvent} (h1 : x = pre ++ m) (h2 : x = pre ++ l) : m = l :=
  List.append_cancel_left (h1.symm.trans h2)

theorem shown_nil {pre m x : List CbEvent} (h1 : x = pre ++ m) (h2 : x = pre) : m = [] :=
  shown_eq h1 (h2.trans (List.append_nil pre).symm)

end Sx
