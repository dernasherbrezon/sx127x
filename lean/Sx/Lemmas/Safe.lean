import Sx.Api
import Sx.Lemmas.Req
import Sx.Lemmas.WalkAttr
/-
  Absence of undefined behaviour in driver programs (C08).

  `Prog.Safe bad G I p`: whatever chip and bus answer (failures, and values of the size asked for:
  a register read of `n` bytes is below `2^(8n)`, a burst read has `n` bytes — what the shadow layer
  guarantees, `sread_sz` and its companions), and whatever handle satisfying `I` the application
  leaves behind inside a callback, `p` never reaches undefined behaviour of a kind in `bad`, every
  callback it invokes satisfies `G`, and every way it can end leaves a handle satisfying `I`.
-/
namespace Sx

variable {α β : Type}

def Prog.Safe (bad : UB → Prop) (G : CbEvent → Prop) (I : Handle → Prop) : Prog (Except Code α × Handle) → Prop
  | .ret rh => I rh.2
  | .ub u => ¬bad u
  | .sread _ n k => ∀ r, (∀ v, r = .ok v → v.toNat < 2 ^ (8 * n)) → (k r).Safe bad G I
  | .rread _ k => ∀ r, (k r).Safe bad G I
  | .swrite _ _ k => ∀ r, (k r).Safe bad G I
  | .bwrite _ _ k => ∀ r, (k r).Safe bad G I
  | .bread _ n k => ∀ r, (∀ d, r = .ok d → d.length = n) → (k r).Safe bad G I
  | .rawbread _ n k => ∀ r, (∀ d, r = .ok d → d.length = n) → (k r).Safe bad G I
  | .callback e h k => (G e ∧ I h) ∧ ∀ h', I h' → (k h').Safe bad G I

/-- what `Safe` assumes of the answer to a request -/
def Req.Sized : (q : Req) → Except Code q.Val → Prop
  | .sread _ n, r => ∀ v, r = .ok v → v.toNat < 2 ^ (8 * n)
  | .bread _ n, r | .rawbread _ n, r => ∀ d, r = .ok d → d.length = n
  | _, _ => True

theorem Prog.Safe_req {bad : UB → Prop} {G : CbEvent → Prop} {I : Handle → Prop} {q : Req}
    {k : Except Code q.Val → Prog (Except Code α × Handle)} :
    (Prog.req q k).Safe bad G I ↔ ∀ r, q.Sized r → (k r).Safe bad G I := by
  cases q
  case sread | bread | rawbread => exact Iff.rfl
  all_goals exact ⟨fun h r _ => h r, fun h r => h r trivial⟩

theorem Prog.Safe_bind {bad : UB → Prop} {G : CbEvent → Prop} {I : Handle → Prop} {p : Prog (Except Code α × Handle)}
    {g : Except Code α × Handle → Prog (Except Code β × Handle)}
    (hp : p.Safe bad G I) (hg : ∀ rh, I rh.2 → (g rh).Safe bad G I) : (p.bind g).Safe bad G I := by
  induction p with
  | ret a => exact hg a hp
  | ub u => exact hp
  | sread reg n k ih | bread reg n k ih | rawbread reg n k ih => exact fun r hr => ih r (hp r hr)
  | rread reg k ih | swrite reg d k ih | bwrite reg d k ih => exact fun r => ih r (hp r)
  | callback e h k ih => exact ⟨hp.1, fun h' hi => ih h' (hp.2 h' hi)⟩

structure DM.SafeI (bad : UB → Prop) (G : CbEvent → Prop) (I : Handle → Prop) (x : DM α) : Prop where
  s : ∀ h, I h → (x h).Safe bad G I

namespace DM
variable {bad : UB → Prop} {G : CbEvent → Prop} {I : Handle → Prop}

theorem SafeI_pure (a : α) : SafeI bad G I (pure a : DM α) := ⟨fun _ hi => hi⟩
theorem SafeI_pure' (a : α) : SafeI bad G I (pure' a : DM α) := ⟨fun _ hi => hi⟩
theorem SafeI_fail (c : Code) : SafeI bad G I (fail c : DM α) := ⟨fun _ hi => hi⟩
theorem SafeI_ub (u : UB) (hu : ¬bad u) : SafeI bad G I (DM.ub u : DM α) := ⟨fun _ _ => hu⟩
theorem SafeI_getH : SafeI bad G I getH := ⟨fun _ hi => hi⟩
theorem SafeI_setH (h : Handle) (hh : I h) : SafeI bad G I (setH h) := ⟨fun _ _ => hh⟩
theorem SafeI_modH (f : Handle → Handle) (hf : ∀ h, I h → I (f h)) : SafeI bad G I (modH f) := ⟨fun h hi => hf h hi⟩
theorem SafeI_cb (e : CbEvent) (hg : G e) : SafeI bad G I (cb e) := ⟨fun _ hi => ⟨⟨hg, hi⟩, fun _ hi' => hi'⟩⟩
theorem SafeI_sread (reg n : Nat) : SafeI bad G I (sread reg n) := ⟨fun _ hi _ _ => hi⟩
theorem SafeI_rread (reg : Nat) : SafeI bad G I (rread reg) := ⟨fun _ hi _ => hi⟩
theorem SafeI_swrite (reg : Nat) (d : List UInt8) : SafeI bad G I (swrite reg d) := ⟨fun _ hi _ => hi⟩
theorem SafeI_bwrite (reg : Nat) (d : List UInt8) : SafeI bad G I (bwrite reg d) := ⟨fun _ hi _ => hi⟩
theorem SafeI_bread (reg n : Nat) : SafeI bad G I (bread reg n) := ⟨fun _ hi _ _ => hi⟩
theorem SafeI_rawbread (reg n : Nat) : SafeI bad G I (rawbread reg n) := ⟨fun _ hi _ _ => hi⟩
theorem SafeI_ofExcept (r : Except Code α) : SafeI bad G I (ofExcept r) := by cases r <;> exact ⟨fun _ hi => hi⟩

theorem Safe_at_bind_of {x : DM α} {f : α → DM β} (h : Handle) (hx : (x h).Safe bad G I)
    (hf : ∀ a h', I h' → ((f a) h').Safe bad G I) : ((x >>= f) h).Safe bad G I := by
  show ((x h).bind _).Safe bad G I
  apply Prog.Safe_bind hx
  intro ⟨r, h'⟩ hi'
  cases r with
  | ok a => exact hf a h' hi'
  | error c => exact hi'

theorem SafeI_bind {x : DM α} {f : α → DM β} (hx : SafeI bad G I x) (hf : ∀ a, SafeI bad G I (f a)) : SafeI bad G I (x >>= f) :=
  ⟨fun h hi => Safe_at_bind_of h (hx.s h hi) fun a h' hi' => (hf a).s h' hi'⟩

theorem SafeI_getH_bind {f : Handle → DM β} (hf : ∀ h, I h → SafeI bad G I (f h)) : SafeI bad G I (getH >>= f) := by
  constructor
  intro h hi
  exact (hf h hi).s h hi

theorem SafeI_bread_bind {reg n : Nat} {f : List UInt8 → DM β} (hf : ∀ d, d.length = n → SafeI bad G I (f d)) :
    SafeI bad G I (bread reg n >>= f) := by
  constructor
  intro h hi r hr
  cases r with
  | ok d => exact (hf d (hr d rfl)).s h hi
  | error c => exact hi

theorem SafeI_sread_bind {reg n : Nat} {f : UInt32 → DM β} (hf : ∀ v : UInt32, v.toNat < 2 ^ (8 * n) → SafeI bad G I (f v)) :
    SafeI bad G I (sread reg n >>= f) := by
  constructor
  intro h hi r hr
  cases r with
  | ok v => exact (hf v (hr v rfl)).s h hi
  | error c => exact hi

theorem Safe_setH_bind (h0 h : Handle) (f : Unit → DM β) (hs : (f () h0).Safe bad G I) : ((setH h0 >>= f) h).Safe bad G I := hs

theorem SafeI_attempt {x : DM α} (hx : SafeI bad G I x) : SafeI bad G I (attempt x) := by
  constructor
  intro h hi
  show ((x h).bind _).Safe bad G I
  apply Prog.Safe_bind (hx.s h hi)
  intro ⟨r, h'⟩ hi'
  exact hi'

theorem SafeI_ite {c : Prop} [Decidable c] {x y : DM α} (hx : c → SafeI bad G I x) (hy : ¬c → SafeI bad G I y) :
    SafeI bad G I (if c then x else y) := by
  split
  · rename_i h; exact hx h
  · rename_i h; exact hy h

/-
  `SafeI_bind` forgets everything about the handle between two statements except `I`.  Where a
  function updates a counter it has just compared with a bound (`received`), the statements are
  followed from the concrete handle instead (`Safe_at_*`). -/

theorem Safe_at_getH_bind (f : Handle → DM β) (h : Handle) :
    ((getH >>= f) h).Safe bad G I ↔ ((f h) h).Safe bad G I := Iff.rfl
theorem Safe_at_modH_bind (m : Handle → Handle) (f : Unit → DM β) (h : Handle) :
    ((modH m >>= f) h).Safe bad G I ↔ ((f ()) (m h)).Safe bad G I := Iff.rfl
theorem Safe_at_modH (m : Handle → Handle) (h : Handle) : ((modH m) h).Safe bad G I ↔ I (m h) := Iff.rfl
theorem Safe_at_cb (e : CbEvent) (h : Handle) : ((cb e) h).Safe bad G I ↔ (G e ∧ I h) ∧ ∀ h', I h' → I h' := Iff.rfl
theorem Safe_at_pure (a : α) (h : Handle) : ((pure a : DM α) h).Safe bad G I ↔ I h := Iff.rfl
theorem Safe_at_fail (c : Code) (h : Handle) : ((fail c : DM α) h).Safe bad G I ↔ I h := Iff.rfl
theorem Safe_at_ub (u : UB) (h : Handle) : ((DM.ub u : DM α) h).Safe bad G I ↔ ¬bad u := Iff.rfl
theorem Safe_at_ub_bind (u : UB) (f : α → DM β) (h : Handle) : ((DM.ub u >>= f) h).Safe bad G I ↔ ¬bad u := Iff.rfl
theorem Safe_at_pure_bind (a : α) (f : α → DM β) (h : Handle) :
    ((pure a >>= f) h).Safe bad G I ↔ ((f a) h).Safe bad G I := Iff.rfl
theorem Safe_at_rread_bind (reg : Nat) (f : UInt8 → DM β) (h : Handle) (hi : I h)
    (hf : ∀ v, ((f v) h).Safe bad G I) : ((rread reg >>= f) h).Safe bad G I := by
  intro r
  cases r with
  | ok v => exact hf v
  | error c => exact hi
theorem Safe_at_bwrite_bind (reg : Nat) (d : List UInt8) (f : Unit → DM β) (h : Handle) (hi : I h)
    (hf : ((f ()) h).Safe bad G I) : ((bwrite reg d >>= f) h).Safe bad G I := by
  intro r
  cases r with
  | ok v => exact hf
  | error c => exact hi
theorem Safe_at_bread_bind (reg n : Nat) (f : List UInt8 → DM β) (h : Handle) (hi : I h)
    (hf : ∀ d, d.length = n → ((f d) h).Safe bad G I) : ((bread reg n >>= f) h).Safe bad G I := by
  intro r hr
  cases r with
  | ok d => exact hf d (hr d rfl)
  | error c => exact hi
theorem Safe_at_packetStore_bind (i : Nat) (v : UInt8) (f : Unit → DM β) (h : Handle) (hi : i < h.packet.length)
    (hs : ((f ()) { h with packet := h.packet.wr i v }).Safe bad G I) :
    ((Model.packetStore i v >>= f) h).Safe bad G I := by
  unfold Model.packetStore
  show (((if i < h.packet.length then setH { h with packet := h.packet.wr i v } else DM.ub .oobPacket) h).bind _).Safe bad G I
  rw [if_pos hi]
  exact hs
theorem Safe_at_packetCopy_bind (off : Nat) (d : List UInt8) (f : Unit → DM β) (h : Handle)
    (hi : off + d.length ≤ h.packet.length)
    (hs : ((f ()) { h with packet := h.packet.wrs off d }).Safe bad G I) :
    ((Model.packetCopy off d >>= f) h).Safe bad G I := by
  unfold Model.packetCopy
  show (((if off + d.length ≤ h.packet.length then setH { h with packet := h.packet.wrs off d } else DM.ub .oobPacket) h).bind _).Safe bad G I
  rw [if_pos hi]
  exact hs
theorem Safe_at_ite {c : Prop} [Decidable c] {x y : DM α} (h : Handle)
    (hx : c → (x h).Safe bad G I) (hy : ¬c → (y h).Safe bad G I) : ((if c then x else y) h).Safe bad G I := by
  split
  · rename_i hc; exact hx hc
  · rename_i hc; exact hy hc

theorem Safe_at_bind {x : DM α} {f : α → DM β} (hx : SafeI bad G I x) (h : Handle) (hi : I h)
    (hf : ∀ a h', I h' → ((f a) h').Safe bad G I) : ((x >>= f) h).Safe bad G I :=
  Safe_at_bind_of h (hx.s h hi) hf

/-- the byte-wise drain loop of the FSK/OOK receive path, for an invariant `J` that may count the fuel:
    each pass stores one byte inside the buffer and advances the count; running out of fuel is excluded
    by `J 0`, or is not of a kind in `bad` -/
theorem safe_drainLoop (J : Nat → Handle → Prop) (hJ : ∀ n h, J n h → I h) (hz : ∀ h, J 0 h → ¬bad .fuel)
    (step : ∀ n (h : Handle) v, J (n + 1) h → h.received.toNat < h.packet.length →
      J n { h with packet := h.packet.wr h.received.toNat v, received := h.received + 1 })
    (fuel : Nat) (h : Handle) (hj : J fuel h) : (Model.drainLoop fuel h).Safe bad G I := by
  induction fuel generalizing h with
  | zero => exact hz h hj
  | succ n ih =>
    unfold Model.drainLoop
    rw [Safe_at_getH_bind]
    apply Safe_at_ite
    · intro _; exact (Safe_at_fail _ _).mpr (hJ _ _ hj)
    · intro hlt
      have hidx : h.received.toNat < h.packet.length := by omega
      apply Safe_at_rread_bind _ _ _ (hJ _ _ hj); intro v
      apply Safe_at_packetStore_bind _ _ _ _ hidx
      rw [Safe_at_modH_bind]
      have hj' := step n h v hj hidx
      apply Safe_at_rread_bind _ _ _ (hJ _ _ hj'); intro irq
      apply Safe_at_ite
      · intro _; exact ih _ hj'
      · intro _; exact (Safe_at_pure _ _).mpr (hJ _ _ hj')

end DM

/-- one step of the structural traversal; the rules are matched against the goal by head symbol only -/
macro "safe_step" : tactic => `(tactic| first
  | with_reducible (first
    | intro _
    | apply DM.SafeI_getH_bind
    | apply DM.SafeI_bread_bind
    | apply DM.SafeI_bind | apply DM.SafeI_attempt | apply DM.SafeI_ite
    | exact DM.SafeI_pure _ | exact DM.SafeI_pure' _ | exact DM.SafeI_fail _ | exact DM.SafeI_getH
    | exact DM.SafeI_sread _ _ | exact DM.SafeI_rread _ | exact DM.SafeI_swrite _ _ | exact DM.SafeI_bwrite _ _
    | exact DM.SafeI_bread _ _ | exact DM.SafeI_rawbread _ _ | exact DM.SafeI_ofExcept _
    | assumption)
  | ((with_reducible apply DM.SafeI_cb); trivial))

/-- one step of the traversal: a structural step; a handle update that leaves what `I` speaks of
    alone; undefined behaviour of a kind not in `bad`; a case split; or a function met on the way: closed
    by the lemma tagged `safe` about it, else unfolded if it is one of the small ones (`model_body`) -/
macro "safe_walk1" : tactic => `(tactic| first
  | safe_step
  | ((with_reducible apply DM.SafeI_modH); intro _ hi; exact hi)
  | ((with_reducible apply DM.SafeI_ub); first | decide | (intro e; cases e))
  | split | dsimp only | simp only [safe] | dsimp only [model_body])

macro "safe_walk" : tactic => `(tactic| repeat safe_walk1)

open Model DM in
section
variable {bad : UB → Prop} {G : CbEvent → Prop} {I : Handle → Prop}
@[safe] theorem safe_checkModulation (m : Nat) : SafeI bad G I (checkModulation m) := by
  unfold checkModulation; safe_walk
@[safe] theorem safe_checkFskOok : SafeI bad G I checkFskOok := by unfold checkFskOok; safe_walk
@[safe] theorem safe_appendRegister (reg : Nat) (v m : UInt8) : SafeI bad G I (appendRegister reg v m) := by
  unfold appendRegister; safe_walk
end

end Sx
