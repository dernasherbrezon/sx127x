import Sx.Lemmas.FailFast
import Sx.Lemmas.RxLen
/-
  Per-function lemmas for C11: every driver function ends at once with the code of a failed
  transfer (`FF`), and the pieces of the interrupt handlers never deliver after a failure.
-/
namespace Sx
open Sx.Model DM

variable {ex : Req → Prop}

/-- the traversal for `FF`: a structural step, a case split, or a function met on the way: closed by
    the lemma tagged `ff` about it, else unfolded if it is one of the small ones (`model_body`) -/
macro "ff_walk" : tactic => `(tactic| repeat (first | ff_step | split | dsimp only | simp only [ff] | dsimp only [model_body]))

@[ff] theorem ff_checkModulation (m : Nat) : FF ex (checkModulation m) := by unfold checkModulation; ff_walk
@[ff] theorem ff_getFrequency : FF ex getFrequency := by unfold getFrequency; ff_walk
@[ff] theorem ff_setFrequency (f : UInt64) : FF ex (setFrequency f) := by unfold setFrequency; ff_walk
@[ff] theorem ff_fixedLen : FF ex fskOokReadFixedPacketLength := by unfold fskOokReadFixedPacketLength; ff_walk
@[ff] theorem ff_addrFilt : FF ex fskOokIsAddressFiltered := by unfold fskOokIsAddressFiltered; ff_walk
@[ff] theorem ff_reload : FF ex reloadLowDatarateOptimization := by unfold reloadLowDatarateOptimization; ff_walk
@[ff] theorem ff_txSetOcp (e : Bool) (m : UInt8) : FF ex (txSetOcp e m) := by unfold txSetOcp; ff_walk
@[ff] theorem ff_withRemaining (n : UInt16) : FF ex (fskOokTxWithRemaining n) := by unfold fskOokTxWithRemaining; ff_walk
@[ff] theorem ff_calibrateLoop (fuel : Nat) : FF ex (calibrateLoop fuel) := by
  induction fuel with
  | zero => unfold calibrateLoop; exact FF_ub _
  | succ n ih => unfold calibrateLoop; ff_walk

/-- the one documented best-effort read: the SNR refinement of the LoRa packet RSSI -/
def snrRead : Req → Prop
  | .rread reg => reg = Gen.REGPKTSNRVALUE
  | _ => False

theorem ff_api (cap fuel : Nat) (a : Api) (hirq : a.isIrq = false) :
    FF (match a with | .rxGetPacketRssi => snrRead | _ => fun _ => False) (Api.prog cap fuel a) := by
  cases a <;> dsimp only
  case irq => exact absurd hirq (by decide)
  all_goals refine FF_bind ?_ fun _ => FF_pure _
  case rxGetPacketRssi =>
    have hsnr : DM.All snrRead loraRxGetPacketSnr := by
      unfold loraRxGetPacketSnr checkModulation
      repeat (first | dm_step | exact All_rread _ rfl)
    unfold rxGetPacketRssi
    repeat (first | with_reducible exact FF_attempt_of_all hsnr | ff_step | split | dsimp only | simp only [ff])
  -- the other calls: unfold the function behind the call where `api_body` has it, and traverse
  all_goals first | (dsimp only [api_body]; ff_walk) | ff_walk

@[ff] theorem ff_drainLoop (fuel : Nat) : FF ex (drainLoop fuel) := by
  induction fuel with
  | zero => unfold drainLoop; exact FF_ub _
  | succ n ih => unfold drainLoop; ff_walk
@[ff] theorem ff_batch (fuel : Nat) (b : Bool) : FF ex (fskOokReadPayloadBatch fuel b) := by
  unfold fskOokReadPayloadBatch; ff_walk
theorem nr_txCb : NR txCallback := by unfold txCallback; repeat nr_step
@[ff] theorem ff_loraRead : FF ex loraRxReadPayload := by unfold loraRxReadPayload; ff_walk

/-- `FS` of a function without best-effort calls, through `FF` -/
macro "fs_walk" : tactic => `(tactic| (apply FS_of_FF; ff_walk))

macro "nr0" : tactic => `(tactic| repeat (first | with_reducible exact nr_txCb | nr_step | split | dsimp only))

theorem fs_loraGuard (e : UInt16) : FS (loraReadGuard e) := by
  unfold loraReadGuard
  constructor
  intro h
  rw [fwp_bind', fwp_attempt]
  refine Prog.fwp_mono _ _ _ _ ?_ ((FS_of_FF ff_loraRead).q h)
  intro f' ⟨r, h'⟩ hq
  cases r with
  | error c =>
    dsimp only
    simp only [fwp_bind', fwp_modH, fwp_fail]
    exact fun _ => ⟨c, rfl⟩
  | ok a =>
    dsimp only
    rw [fwp_pure]
    exact hq

/-- the traversal for `OKH`: a statement without best-effort calls ends the handler when one of its
    transfers fails (`FS`, through `FF`), so anything that does not deliver after a failure may follow
    it; the best-effort batch read is followed by the callback only when it reports success, and by
    statements that never deliver (`NR`) otherwise -/
macro "okh_walk" : tactic => `(tactic| repeat (first
  | with_reducible exact OKH_pure _
  | intro _ | with_reducible apply OKH_ite
  | ((with_reducible apply OKH_bind_FS); focus (first | (fs_walk; done) | exact fs_loraGuard _))
  | ((with_reducible apply OKH_attempt_bind); focus (fs_walk; done))
  | focus ((with_reducible apply OKH_of_FS); fs_walk; done)
  | focus (nr0; done)
  | dsimp only))

theorem okh_fskIrq (fuel : Nat) : OKH (fskOokHandleInterrupt fuel) := by unfold fskOokHandleInterrupt; okh_walk
theorem okh_loraIrq : OKH loraHandleInterrupt := by unfold loraHandleInterrupt; okh_walk
theorem okh_irq (fuel : Nat) : OKH (handleInterrupt fuel) := by
  unfold handleInterrupt
  exact OKH_bind_FS FS_getH fun _ => OKH_ite okh_loraIrq (OKH_ite (okh_fskIrq _) (OKH_pure _))

theorem tx_loraGuard (h : Handle) :
    (loraReadGuard h.expected h).fwp false (fun f' rh => f' = true → rh.2 = h) :=
  Prog.fwp_mono _ _ _ _ (fun _ _ hq hf => hq.2 hf rfl) (loraGuard_run h.expected h)

end Sx
