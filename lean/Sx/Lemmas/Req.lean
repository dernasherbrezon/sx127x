import Sx.Exec
/-
  The interpreter seen through the few shapes proofs need: the four bus operations are one
  (`World.transfer`); a program is finished, a request with its continuation, or a callback
  (`Prog.req_induction`), and the interpreter treats every request alike (`execG_req`), so a
  property of worlds that each request preserves survives the program (`execG_preserves`).
-/
namespace Sx

/-- The shape the four bus operations share: the events scheduled for this transfer happen
    (`World.pre`); then the transfer either faults and is only logged, or acts on the chip and
    is logged with its answer. -/
def World.transfer {β : Type} (w : World) (act : Chip → β × Chip) (ev : Except Code β → BusEv) :
    Except Code β × World :=
  match w.pre.2 with
  | some c => (.error c, { w.pre.1 with bus := ev (.error c) :: w.bus })
  | none => (.ok (act w.pre.1.chip).1,
      { w.pre.1 with chip := (act w.pre.1.chip).2, bus := ev (.ok (act w.pre.1.chip).1) :: w.bus })

theorem World.busRead_eq (w : World) (reg n : Nat) :
    w.busRead reg n = w.transfer (fun c => (be32 (c.readN reg n).1, (c.readN reg n).2)) (.r reg n) := rfl
theorem World.busReadBuf_eq (w : World) (reg n : Nat) :
    w.busReadBuf reg n = w.transfer (fun c => c.readN reg n) (.rb reg n) := rfl
theorem World.busWrite_eq (w : World) (reg : Nat) (d : List UInt8) :
    w.busWrite reg d = w.transfer (fun c => ((), c.writeN reg d)) (.w reg d) := rfl
theorem World.busWriteBuf_eq (w : World) (reg : Nat) (d : List UInt8) :
    w.busWriteBuf reg d = w.transfer (fun c => ((), c.writeN reg d)) (.wb reg d) := rfl

section transfer
variable {β : Type} (w : World) (act : Chip → β × Chip) (ev : Except Code β → BusEv)

theorem World.transfer_cases :
    (∃ c, w.transfer act ev = (.error c, { w.pre.1 with bus := ev (.error c) :: w.bus })) ∨
    w.transfer act ev = (.ok (act w.pre.1.chip).1,
      { w.pre.1 with chip := (act w.pre.1.chip).2, bus := ev (.ok (act w.pre.1.chip).1) :: w.bus }) := by
  unfold World.transfer
  cases w.pre.2 with
  | some c => exact .inl ⟨c, rfl⟩
  | none => exact .inr rfl

theorem World.transfer_cache : (w.transfer act ev).2.cache = w.cache := by
  unfold World.transfer; split <;> rfl
theorem World.transfer_cbs : (w.transfer act ev).2.cbs = w.cbs := by
  unfold World.transfer; split <;> rfl
theorem World.transfer_bus : ∃ r, (w.transfer act ev).2.bus = ev r :: w.bus := by
  unfold World.transfer; split <;> exact ⟨_, rfl⟩

theorem World.transfer_ok {w : World} {act : Chip → β × Chip} {ev : Except Code β → BusEv} {b : β} {w1 : World}
    (h : w.transfer act ev = (.ok b, w1)) :
    b = (act w.pre.1.chip).1 ∧ w1 = { w.pre.1 with chip := (act w.pre.1.chip).2, bus := ev (.ok b) :: w.bus } := by
  rcases w.transfer_cases act ev with ⟨c, e⟩ | e <;> rw [e] at h <;> cases h
  exact ⟨rfl, rfl⟩
end transfer

theorem busRead_cache (w : World) (reg n : Nat) : (w.busRead reg n).2.cache = w.cache := by
  rw [w.busRead_eq]; exact w.transfer_cache ..
theorem busReadBuf_cache (w : World) (reg n : Nat) : (w.busReadBuf reg n).2.cache = w.cache := by
  rw [w.busReadBuf_eq]; exact w.transfer_cache ..
theorem busWrite_cache (w : World) (reg : Nat) (d : List UInt8) : (w.busWrite reg d).2.cache = w.cache := by
  rw [w.busWrite_eq]; exact w.transfer_cache ..
theorem busWriteBuf_cache (w : World) (reg : Nat) (d : List UInt8) : (w.busWriteBuf reg d).2.cache = w.cache := by
  rw [w.busWriteBuf_eq]; exact w.transfer_cache ..

theorem busRead_bus (w : World) (reg n : Nat) : ∃ r, (w.busRead reg n).2.bus = .r reg n r :: w.bus := by
  rw [w.busRead_eq]; exact w.transfer_bus ..
theorem busReadBuf_bus (w : World) (reg n : Nat) : ∃ r, (w.busReadBuf reg n).2.bus = .rb reg n r :: w.bus := by
  rw [w.busReadBuf_eq]; exact w.transfer_bus ..
theorem busWrite_bus (w : World) (reg : Nat) (d : List UInt8) : ∃ r, (w.busWrite reg d).2.bus = .w reg d r :: w.bus := by
  rw [w.busWrite_eq]; exact w.transfer_bus ..
theorem busWriteBuf_bus (w : World) (reg : Nat) (d : List UInt8) :
    ∃ r, (w.busWriteBuf reg d).2.bus = .wb reg d r :: w.bus := by
  rw [w.busWriteBuf_eq]; exact w.transfer_bus ..

theorem busRead_ok {w : World} (reg n : Nat) (v : UInt32) (w1 : World) (h : w.busRead reg n = (.ok v, w1)) :
    v = be32 (w.pre.1.chip.readN reg n).1 ∧ w1.chip = (w.pre.1.chip.readN reg n).2 := by
  obtain ⟨rfl, rfl⟩ := World.transfer_ok (w.busRead_eq reg n ▸ h)
  exact ⟨rfl, rfl⟩

/-- neither environment events inside the operation nor failing transfers: their positions are
    keyed by transfer index, which is not comparable between the two builds -/
def World.Plain (w : World) : Prop := w.sched = [] ∧ w.faults = []

theorem pre_plain {w : World} (h : w.Plain) : w.pre = ({ w with xfer := w.xfer + 1 }, none) := by
  unfold World.pre
  simp only [h.1, h.2, List.foldl_nil]

theorem World.transfer_plain {β : Type} {w : World} (h : w.Plain) (act : Chip → β × Chip) (ev : Except Code β → BusEv) :
    w.transfer act ev = (.ok (act w.chip).1,
      { w with xfer := w.xfer + 1, chip := (act w.chip).2, bus := ev (.ok (act w.chip).1) :: w.bus }) := by
  unfold World.transfer
  rw [pre_plain h]

theorem busRead_plain {w : World} (h : w.Plain) (reg n : Nat) :
    w.busRead reg n = (.ok (be32 (w.chip.readN reg n).1),
      { w with xfer := w.xfer + 1, chip := (w.chip.readN reg n).2,
               bus := .r reg n (.ok (be32 (w.chip.readN reg n).1)) :: w.bus }) :=
  (w.busRead_eq reg n).trans (World.transfer_plain h ..)

theorem busReadBuf_plain {w : World} (h : w.Plain) (reg n : Nat) :
    w.busReadBuf reg n = (.ok (w.chip.readN reg n).1,
      { w with xfer := w.xfer + 1, chip := (w.chip.readN reg n).2,
               bus := .rb reg n (.ok (w.chip.readN reg n).1) :: w.bus }) :=
  (w.busReadBuf_eq reg n).trans (World.transfer_plain h ..)

theorem busWrite_plain {w : World} (h : w.Plain) (reg : Nat) (d : List UInt8) :
    w.busWrite reg d = (.ok (),
      { w with xfer := w.xfer + 1, chip := w.chip.writeN reg d, bus := .w reg d (.ok ()) :: w.bus }) :=
  (w.busWrite_eq reg d).trans (World.transfer_plain h ..)

theorem busWriteBuf_plain {w : World} (h : w.Plain) (reg : Nat) (d : List UInt8) :
    w.busWriteBuf reg d = (.ok (),
      { w with xfer := w.xfer + 1, chip := w.chip.writeN reg d, bus := .wb reg d (.ok ()) :: w.bus }) :=
  (w.busWriteBuf_eq reg d).trans (World.transfer_plain h ..)

def Step.Holds {β : Type} (J : World → Prop) : Step β → Prop
  | .ok _ w => J w
  | .ub _ => True

theorem Step.Holds.of_eq {β : Type} {J : World → Prop} {s : Step β} {r : Except Code β} {w : World}
    (h : s.Holds J) (e : s = .ok r w) : J w := by
  subst e; exact h

@[reducible] def Req.Val : Req → Type
  | .sread .. => UInt32
  | .rread _ => UInt8
  | .swrite .. | .bwrite .. => Unit
  | .bread .. | .rawbread .. => List UInt8

def Prog.req : (q : Req) → (Except Code q.Val → Prog α) → Prog α
  | .sread reg n, k => .sread reg n k
  | .rread reg, k => .rread reg k
  | .swrite reg d, k => .swrite reg d k
  | .bwrite reg d, k => .bwrite reg d k
  | .bread reg n, k => .bread reg n k
  | .rawbread reg n, k => .rawbread reg n k

/-- what the interpreter does for a request: the shadow layer, or the buffer read that bypasses it -/
def Shadow.step (cached : Bool) (w : World) : (q : Req) → Step q.Val
  | .sread reg n => Shadow.sread cached w reg n
  | .rread reg => Shadow.rread cached w reg
  | .swrite reg d => Shadow.swrite cached w reg d
  | .bwrite reg d => Shadow.bwrite cached w reg d
  | .bread reg n | .rawbread reg n => .ok (w.busReadBuf reg n).1 (w.busReadBuf reg n).2

theorem Prog.req_induction {motive : Prog α → Prop} (ret : ∀ a, motive (.ret a)) (ub : ∀ u, motive (.ub u))
    (req : ∀ q (k : Except Code q.Val → Prog α), (∀ r, motive (k r)) → motive (Prog.req q k))
    (callback : ∀ e h (k : Handle → Prog α), (∀ h', motive (k h')) → motive (.callback e h k))
    (p : Prog α) : motive p := by
  induction p with
  | ret a => exact ret a
  | ub u => exact ub u
  | sread reg n k ih => exact req (.sread reg n) k ih
  | rread reg k ih => exact req (.rread reg) k ih
  | swrite reg d k ih => exact req (.swrite reg d) k ih
  | bwrite reg d k ih => exact req (.bwrite reg d) k ih
  | bread reg n k ih => exact req (.bread reg n) k ih
  | rawbread reg n k ih => exact req (.rawbread reg n) k ih
  | callback e h k ih => exact callback e h k ih

theorem Prog.All_req {P : Req → Prop} {q : Req} {k : Except Code q.Val → Prog α} :
    (Prog.req q k).All P ↔ P q ∧ ∀ r, (k r).All P := by
  cases q <;> exact Iff.rfl

theorem execG_req (cached : Bool) (onCb : CbEvent → Handle → World → Outcome Handle) (q : Req)
    (k : Except Code q.Val → Prog α) (w : World) :
    execG cached onCb (Prog.req q k) w =
      match Shadow.step cached w q with
      | .ok r w' => execG cached onCb (k r) w'
      | .ub u => .ub u w := by
  cases q <;> simp only [Prog.req, Shadow.step, execG] <;> split <;> simp only [*]

/-- On undefined behaviour the world returned is the one before the failing request, so nothing
    is asked of a `.ub` step. -/
theorem execG_preserves {J : World → Prop} {P : Req → Prop} {cached : Bool}
    {onCb : CbEvent → Handle → World → Outcome Handle}
    (hreq : ∀ q, P q → ∀ w, J w → (Shadow.step cached w q).Holds J)
    (hcb : ∀ e h w, J w → J (onCb e h w).world)
    (p : Prog α) (hp : p.All P) (w : World) (j : J w) : J (execG cached onCb p w).world := by
  induction p using Prog.req_induction generalizing w with
  | ret a => exact j
  | ub u => exact j
  | req q k ih =>
    rw [execG_req]
    have := hreq q (Prog.All_req.1 hp).1 w j
    cases hs : Shadow.step cached w q with
    | ok r w' => rw [hs] at this; exact ih r ((Prog.All_req.1 hp).2 r) w' this
    | ub u => exact j
  | callback e h k ih =>
    simp only [execG]
    have := hcb e h w j
    cases hc : onCb e h w with
    | done h' w' => rw [hc] at this; exact ih h' (hp h') w' this
    | ub u w' => rw [hc] at this; exact this

theorem Cfg.onCb_preserves {J : World → Prop} (cfg : Cfg) (hcbs : ∀ w cbs, J w → J { w with cbs := cbs })
    (hre : ∀ e re, cfg.reactionFor e = some re → ∀ h w, J w → J (exec0 cfg.cached (re.run h) w).world)
    (e : CbEvent) (h : Handle) (w : World) (j : J w) : J (cfg.onCb e h w).world := by
  unfold Cfg.onCb
  cases hr : cfg.reactionFor e with
  | none => exact hcbs w _ j
  | some re =>
    have := hre e re hr h w j
    dsimp only
    cases hx : exec0 cfg.cached (re.run h) w with
    | done a w' => rw [hx] at this; exact hcbs w' _ this
    | ub u w' => rw [hx] at this; exact this

end Sx
