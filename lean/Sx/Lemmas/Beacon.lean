import Sx.Lemmas.FloatOps
import Sx.Lemmas.Bytes
import Sx.Props.C14.Defs
/-
  The beacon timer selection by arithmetic.

  Above 2091 ms timer 1 runs at 262 ms, and 262, 255, 2 and every interval below 2^24 are binary32
  values: the coefficient of timer 1 is the integer quotient (saturated at 255) and what it leaves
  is an integer number of milliseconds.  Up to 67855 ms timer 2 then picks its own resolution: from
  17 ms left on it runs at 4.1 ms and its quotient is again the integer one (the float 4.1 is within
  10^-7 of 41/10); above 67855 ms it runs at 262 ms as well and the result is a closed form
  (`beaconTimers_coarse`).

  From 33 to 2091 ms timer 1 runs at 4.1 ms.  Its coefficient is still an integer quotient; what it
  leaves is no longer exact, but the exact value is a whole multiple of 1/64 resp. 1/41 of a step of
  timer 2, and the three roundings on the way to timer 2's coefficient move it by less than one such
  unit: the coefficient counts the remainder down to at most one step (`timerCoefficient_near`).

  Division by the float 0.064 has no such slack (8 / 0.064 is an integer, the float is above 0.064):
  those quotients are left to evaluation (Sx/Props/C14/Table.lean).
-/
namespace Sx
open Sx.Model

theorem round_nat32 (n : Nat) (h : n < 2 ^ 24) : F.round b32 (n : Rat) = .fin (n : Rat) := ofNat32 n h

theorem timerCoefficient_fin (r : Rat) (k : Nat) (h1 : (k : Rat) ≤ r) (h2 : r < (k : Rat) + 1) :
    timerCoefficient (.fin r) = some (min 255 k) := by
  have hfl : r.floor = (k : Int) := by
    rw [rfloor_eq, Int.floor_eq_iff]; exact ⟨by exact_mod_cast h1, by exact_mod_cast h2⟩
  have hr0 : (0 : Rat) ≤ r := le_trans (by positivity) h1
  unfold timerCoefficient
  rw [show F.ofNat b32 255 = .fin 255 from ofNat32 255 (by norm_num)]
  simp only [F.gt, F.lt, decide_eq_true_eq]
  split
  · rename_i h
    have : (255 : Rat) < (k : Rat) + 1 := lt_trans h h2
    have : 255 < k + 1 := by exact_mod_cast this
    rw [Nat.min_eq_left (by omega)]
  · rename_i h
    have : k ≤ 255 := by exact_mod_cast le_trans h1 (not_lt.mp h)
    simp only [F.toUInt, F.truncQ, if_neg (not_lt.mpr hr0), hfl]
    rw [if_pos ⟨by omega, by norm_num; omega⟩, Nat.min_eq_right this]
    rfl

theorem timerCoefficient_sat (r : Rat) (h : 255 < r) : timerCoefficient (.fin r) = some 255 := by
  unfold timerCoefficient
  rw [show F.ofNat b32 255 = .fin 255 from ofNat32 255 (by norm_num)]
  simp only [F.gt, F.lt, decide_eq_true_eq, h, if_true]

/-- The coefficient of an exact quotient of integers is the integer quotient.  The quotient keeps `1/d ≥ 2^-10` away
    from the next integer, and that bound is a float as long as `(n/d + 1) 2^10 ≤ 2^24`. -/
theorem timerCoefficient_div (n d : Nat) (hd : 0 < d) (hdn : d ≤ n) (hd10 : d ≤ 1024) (hn : n / d < 16383) :
    timerCoefficient (F.div b32 (.fin n) (.fin d)) = some (min 255 (n / d)) := by
  have hdq : (0 : Rat) < (d : Rat) := by exact_mod_cast hd
  have hlo : d * (n / d) ≤ n := Nat.mul_div_le n d
  have hhi : n + 1 ≤ d * (n / d) + d := by have := Nat.lt_mul_div_succ n hd; rw [Nat.mul_succ] at this; omega
  have hlo' : (d : Rat) * ((n / d : Nat) : Rat) ≤ (n : Rat) := by exact_mod_cast hlo
  have hhi' : (n : Rat) + 1 ≤ (d : Rat) * ((n / d : Nat) : Rat) + (d : Rat) := by exact_mod_cast hhi
  have hd10' : (d : Rat) ≤ 1024 := by exact_mod_cast hd10
  obtain ⟨r, hr, b1, b2, _⟩ := div_between n d (ne_of_gt hdq) (n / d) 10 (Nat.div_pos hdn hd) (by omega)
    (by rw [le_div_iff₀ hdq]; linarith)
    (by rw [div_le_iff₀ hdq]
        have : (1 : Rat) / 2 ^ 10 * (d : Rat) ≤ 1 := by norm_num; linarith
        linarith)
  rw [hr, timerCoefficient_fin r _ b1 b2]

theorem sub_mul_nat (a b c : Nat) (hb : 0 < b) (h : b * c ≤ a) (ha : a < 2 ^ 24) :
    F.sub b32 (.fin a) (F.mul b32 (.fin b) (F.ofNat b32 c)) = .fin ((a - b * c : Nat) : Rat) := by
  have hc : c ≤ b * c := Nat.le_mul_of_pos_left c hb
  rw [ofNat32 c (by omega), F.mul_fin, show (b : Rat) * (c : Rat) = ((b * c : Nat) : Rat) by push_cast; rfl,
    round_nat32 _ (by omega), F.sub_fin,
    show (a : Rat) - ((b * c : Nat) : Rat) = ((a - b * c : Nat) : Rat) by rw [Nat.cast_sub h], round_nat32 _ (by omega)]

theorem timerCoefficient_near (r : Rat) (L a : Nat) (hL : 0 < L) (h0 : 0 ≤ r) (h : |(L : Rat) * r - a| < 1)
    (ha : a ≤ 256 * L) : ∃ c, timerCoefficient (.fin r) = some c ∧ c ≤ 255 ∧ L * c ≤ a ∧ a ≤ L * c + L := by
  obtain ⟨k, hk⟩ := Int.eq_ofNat_of_zero_le (Int.floor_nonneg.mpr h0)
  have k1 : (k : Rat) ≤ r := by have := Int.floor_le r; rw [hk] at this; exact_mod_cast this
  have k2 : r < (k : Rat) + 1 := by have := Int.lt_floor_add_one r; rw [hk] at this; exact_mod_cast this
  have hLq : (0 : Rat) < (L : Rat) := by exact_mod_cast hL
  have ⟨h1, h2⟩ := abs_lt.mp h
  have e1 : L * k ≤ a := by
    have : ((L * k : Nat) : Rat) < ((a + 1 : Nat) : Rat) := by
      push_cast; linarith only [mul_le_mul_of_nonneg_left k1 hLq.le, h2]
    exact Nat.lt_succ_iff.mp (by exact_mod_cast this)
  have e2 : a ≤ L * k + L := by
    have : ((a : Nat) : Rat) < ((L * k + L + 1 : Nat) : Rat) := by
      push_cast; linarith only [mul_lt_mul_of_pos_left k2 hLq, h1]
    exact Nat.lt_succ_iff.mp (by exact_mod_cast this)
  refine ⟨min 255 k, timerCoefficient_fin r k k1 k2, by omega, ?_, ?_⟩
  · exact le_trans (Nat.mul_le_mul_left L (by omega)) e1
  · rcases Nat.le_total k 255 with hk255 | hk255
    · rwa [Nat.min_eq_right hk255]
    · rw [Nat.min_eq_left hk255]; omega

theorem p1_val : f32 (64/1000) = .fin (8589935/134217728) := by decide +kernel
theorem p2_val : f32 (41/10) = .fin (8598323/2097152) := by decide +kernel

theorem beaconChoice_fin (q : Rat) :
    beaconChoice (.fin q) =
      if q ≤ 8556381/262144 then (.fin (8589935/134217728), F.div b32 (F.div b32 (.fin q) (.fin (8589935/134217728))) (.fin 2), some (.fin (8589935/134217728)))
      else if q ≤ 8698429/8192 then (.fin (8598323/2097152), F.div b32 (.fin q) (.fin (8598323/2097152)), some (.fin (8589935/134217728)))
      else if q ≤ 2091 then (.fin (8598323/2097152), F.div b32 (F.div b32 (.fin q) (.fin (8598323/2097152))) (.fin 2), some (.fin (8598323/2097152)))
      else if q ≤ 135711 / 2 then (.fin 262, F.div b32 (.fin q) (.fin 262), none)
      else (.fin 262, F.div b32 (F.div b32 (.fin q) (.fin 262)) (.fin 2), some (.fin 262)) := by
  have t1 : F.mul b32 (F.mul b32 (F.ofNat b32 255) (f32 (64/1000))) (F.ofNat b32 2) = .fin (8556381/262144) := by
    decide +kernel
  have t2 : F.add b32 (F.mul b32 (F.ofNat b32 255) (f32 (41/10))) (F.mul b32 (F.ofNat b32 255) (f32 (64/1000)))
      = .fin (8698429/8192) := by decide +kernel
  have t3 : F.mul b32 (F.mul b32 (F.ofNat b32 255) (f32 (41/10))) (F.ofNat b32 2) = .fin 2091 := by decide +kernel
  have t4 : F.add b32 (F.mul b32 (F.ofNat b32 255) (f32 262)) (F.mul b32 (F.ofNat b32 255) (f32 (41/10)))
      = .fin (135711/2) := by decide +kernel
  unfold beaconChoice
  simp only [t1, t2, t3, t4]
  simp only [F.le_fin, decide_eq_true_eq, p1_val, p2_val, show f32 262 = .fin 262 from ofNat32 262 (by norm_num),
    show F.ofNat b32 2 = .fin 2 from ofNat32 2 (by norm_num)]

theorem beaconChoice_coarse (q : Rat) (h : 2092 ≤ q) :
    beaconChoice (.fin q) = if q ≤ 135711 / 2 then (.fin 262, F.div b32 (.fin q) (.fin 262), none)
      else (.fin 262, F.div b32 (F.div b32 (.fin q) (.fin 262)) (.fin 2), some (.fin 262)) := by
  rw [beaconChoice_fin, if_neg (by linarith), if_neg (by linarith), if_neg (by linarith)]

/-! The proofs below never let `dsimp`/`unfold` loose on `beaconFine` or on a `match` over a float
    expression with a free variable in it: the kernel would normalise the float operations
    symbolically to re-check the step.  They go through these rewriting lemmas instead. -/

theorem beaconTimers_of (n : Nat) (r1 c1f : F) (r2o : Option F) (c1 : Nat)
    (hch : beaconChoice (F.ofNat b32 n) = (r1, c1f, r2o)) (hc : timerCoefficient c1f = some c1) :
    beaconTimers n = beaconFine (F.sub b32 (F.ofNat b32 n) (F.mul b32 r1 (F.ofNat b32 c1))) r1 r2o c1 := by
  rw [beaconTimers_eq, hch]
  simp only [hc]

/-- the bits of RegTimerResol for the two resolutions -/
def resolBits (r1 r2 : F) : UInt8 := UInt8.ofNat
  ((if F.eq r1 (f32 (64/1000)) then 0x04 else if F.eq r1 (f32 (41/10)) then 0x08 else 0x0c) +
   (if F.eq r2 (f32 (64/1000)) then 0x01 else if F.eq r2 (f32 (41/10)) then 0x02 else 0x03))

theorem beaconFine_some (rem r1 r2 : F) (c1 c2 : Nat) (hc : timerCoefficient (F.div b32 rem r2) = some c2) :
    beaconFine rem r1 (some r2) c1 = some (UInt8.ofNat c1, UInt8.ofNat c2, resolBits r1 r2) := by
  unfold beaconFine resolBits
  simp only [hc]

theorem beaconFine_none (rem r1 : F) (c1 : Nat) :
    beaconFine rem r1 none c1 = beaconFine rem r1
      (some (if F.le rem (F.mul b32 (F.ofNat b32 255) (f32 (64/1000))) then f32 (64/1000) else f32 (41/10))) c1 := by
  unfold beaconFine
  rfl

theorem beaconFine_c1 (rem r1 : F) (r2o : Option F) (c1 : Nat) :
    beaconFine rem r1 r2o c1 = (beaconFine rem r1 r2o 0).map (fun t => (UInt8.ofNat c1, t.2)) := by
  unfold beaconFine
  dsimp only
  cases timerCoefficient (F.div b32 rem (match r2o with
    | some r => r
    | none => if F.le rem (F.mul b32 (F.ofNat b32 255) (f32 (64/1000))) then f32 (64/1000) else f32 (41/10))) <;> rfl

theorem beaconOk_of {n c1 c2 : Nat} {resol : UInt8} {s1 s2 : Rat}
    (ht : beaconTimers n = some (UInt8.ofNat c1, UInt8.ofNat c2, resol)) (l1 : c1 ≤ 255) (l2 : c2 ≤ 255)
    (hs1 : timerStep ((resol >>> 2) &&& 3) = s1) (hs2 : timerStep (resol &&& 3) = s2)
    (hb : (resol >>> 2) &&& 3 ≠ 0 ∧ resol &&& 3 ≠ 0 ∧ resol &&& 0xf0 = 0) (h21 : s2 ≤ s1)
    (lo : s1 * c1 + s2 * c2 ≤ n) (hi : (n : Rat) ≤ s1 * c1 + s2 * c2 + s2) (hf : s2 ≤ 41 / 10 ∨ n > 67855) :
    beaconOk n = true := by
  unfold beaconOk
  rw [ht]
  simp only [beaconPeriod, hs1, hs2, u8_toNat_ofNat _ l1, u8_toNat_ofNat _ l2, min_eq_right h21,
    Bool.and_eq_true, Bool.or_eq_true, decide_eq_true_eq]
  exact ⟨⟨⟨⟨⟨hb.1, hb.2.1⟩, hb.2.2⟩, by linarith⟩, by linarith⟩, hf⟩

/-- 67856 .. 133620 ms: both timers at 262 ms, timer 1 counts `n / 524` steps and timer 2 the whole steps that are left -/
theorem beaconTimers_coarse (n : Nat) (h1 : 67856 ≤ n) (h2 : n ≤ 133620) :
    beaconTimers n = some (UInt8.ofNat (n / 524), UInt8.ofNat ((n - 262 * (n / 524)) / 262), 15) := by
  have hn : (67856 : Rat) ≤ (n : Rat) := by exact_mod_cast h1
  have hq : (262 : Rat) * ((n / 262 : Nat) : Rat) ≤ (n : Rat) := by exact_mod_cast Nat.mul_div_le n 262
  have hq' : (n : Rat) + 1 ≤ 262 * ((n / 262 : Nat) : Rat) + 262 := by
    exact_mod_cast (by omega : n + 1 ≤ 262 * (n / 262) + 262)
  have hk : (2 : Rat) * ((n / 524 : Nat) : Rat) ≤ ((n / 262 : Nat) : Rat) := by
    exact_mod_cast (by omega : 2 * (n / 524) ≤ n / 262)
  have hk' : ((n / 262 : Nat) : Rat) ≤ 2 * ((n / 524 : Nat) : Rat) + 1 := by
    exact_mod_cast (by omega : n / 262 ≤ 2 * (n / 524) + 1)
  have hch : beaconChoice (F.ofNat b32 n) = (.fin 262, F.div b32 (F.div b32 (.fin n) (.fin 262)) (.fin 2), some (.fin 262)) := by
    rw [ofNat32 n (by omega), beaconChoice_coarse n (by linarith),
      if_neg (by linarith)]
  obtain ⟨r1, hr1, a1, _, a3⟩ := div_between n 262 (by norm_num) (n / 262) 10 (by omega) (by omega)
    (by rw [le_div_iff₀ (by norm_num)]; linarith only [hq]) (by rw [div_le_iff₀ (by norm_num)]; norm_num; linarith only [hq'])
  obtain ⟨r2, hr2, b1, b2, _⟩ := div_between r1 2 (by norm_num) (n / 524) 11 (by omega) (by omega)
    (by rw [le_div_iff₀ (by norm_num)]; linarith only [a1, hk])
    (by rw [div_le_iff₀ (by norm_num)]; norm_num at a3 ⊢; linarith only [a3, hk'])
  rw [beaconTimers_of n _ _ _ (n / 524) hch (by rw [hr1, hr2, timerCoefficient_fin r2 _ b1 b2, Nat.min_eq_right (by omega)]),
    ofNat32 n (by omega),
    show ((262 : Rat)) = ((262 : Nat) : Rat) by norm_num, sub_mul_nat n 262 _ (by norm_num) (by omega) (by omega),
    beaconFine_some _ _ _ _ ((n - 262 * (n / 524)) / 262)
      (by rw [timerCoefficient_div _ 262 (by norm_num) (by omega) (by norm_num) (by omega), Nat.min_eq_right (by omega)])]
  exact congrArg (fun x => some (_, _, x)) (by decide +kernel : resolBits (.fin ((262 : Nat) : Rat)) (.fin ((262 : Nat) : Rat)) = 15)

theorem beaconOk_coarse (n : Nat) (h1 : 67856 ≤ n) (h2 : n ≤ 133620) : beaconOk n = true := by
  have ht := beaconTimers_coarse n h1 h2
  have hlo : (((262 * (n / 524 + (n - 262 * (n / 524)) / 262) : Nat)) : Rat) ≤ (n : Rat) := by
    exact_mod_cast (by omega : 262 * (n / 524 + (n - 262 * (n / 524)) / 262) ≤ n)
  have hhi : (n : Rat) ≤ ((262 * (n / 524 + (n - 262 * (n / 524)) / 262) + 262 : Nat) : Rat) := by
    exact_mod_cast (by omega : n ≤ 262 * (n / 524 + (n - 262 * (n / 524)) / 262) + 262)
  push_cast at hlo hhi
  exact beaconOk_of ht (by omega) (by omega) (by decide +kernel : _ = (262 : Rat)) (by decide +kernel : _ = (262 : Rat))
    (by decide) (le_refl _) (by linarith only [hlo]) (by linarith only [hhi]) (Or.inr (by omega))

/-- 2092 .. 67855 ms: timer 1 counts whole multiples of 262 ms, timer 2 gets the integer rest -/
theorem beaconTimers_mid (n : Nat) (h1 : 2092 ≤ n) (h2 : n ≤ 67855) :
    beaconTimers n = beaconFine (.fin ((n - 262 * min 255 (n / 262) : Nat) : Rat)) (.fin 262) none (min 255 (n / 262)) := by
  have hn1 : (2092 : Rat) ≤ (n : Rat) := by exact_mod_cast h1
  have hn2 : (n : Rat) ≤ 67855 := by exact_mod_cast h2
  have hch : beaconChoice (F.ofNat b32 n) = (.fin 262, F.div b32 (.fin n) (.fin 262), none) := by
    rw [ofNat32 n (by omega), beaconChoice_coarse n hn1, if_pos (by linarith)]
  rw [beaconTimers_of n _ _ _ (min 255 (n / 262)) hch
      (by rw [show ((262 : Rat)) = ((262 : Nat) : Rat) by norm_num]
          exact timerCoefficient_div n 262 (by norm_num) (by omega) (by norm_num) (by omega)),
    ofNat32 n (by omega),
    show ((262 : Rat)) = ((262 : Nat) : Rat) by norm_num, sub_mul_nat n 262 _ (by norm_num) (by omega) (by omega)]

theorem beaconOk_mid (n : Nat) (h1 : 2092 ≤ n) (h2 : n ≤ 67855)
    (hf : fineOk (n - 262 * min 255 (n / 262)) = true) : beaconOk n = true := by
  have hR : (((n - 262 * min 255 (n / 262) : Nat)) : Rat) = (n : Rat) - 262 * ((min 255 (n / 262) : Nat) : Rat) := by
    rw [Nat.cast_sub (by omega)]; push_cast; rfl
  unfold fineOk at hf
  cases hb : beaconFine (.fin ((n - 262 * min 255 (n / 262) : Nat) : Rat)) (.fin 262) none 0 with
  | none => rw [hb] at hf; cases hf
  | some t =>
    obtain ⟨a, c2, resol⟩ := t
    rw [hb] at hf
    simp only [Bool.and_eq_true, decide_eq_true_eq, hR] at hf
    obtain ⟨⟨⟨⟨⟨k1, k2⟩, k3⟩, k4⟩, k5⟩, k6⟩ := hf
    have ht : beaconTimers n = some (UInt8.ofNat (min 255 (n / 262)), UInt8.ofNat c2.toNat, resol) := by
      rw [beaconTimers_mid n h1 h2, beaconFine_c1, hb]; simp [Option.map]
    exact beaconOk_of ht (by omega) (by have := c2.toNat_lt; omega) (by rw [k1]; decide +kernel : _ = (262 : Rat)) rfl
      ⟨by rw [k1]; decide, k2, k3⟩ (le_trans k6 (by norm_num)) (by linarith) (by linarith) (Or.inl k6)

/-- the quotient of an interval or remainder by the float 4.1, which is below 41/10 by less than
    10^-7: between `10 n / 41` and the next integer -/
theorem div_p2 (n : Nat) (h1 : 5 ≤ n) (h2 : n ≤ 2091) :
    ∃ r, F.div b32 (.fin n) (.fin (8598323/2097152)) = .fin r ∧ ((10 * n / 41 : Nat) : Rat) ≤ r ∧
      r < ((10 * n / 41 : Nat) : Rat) + 1 ∧ r ≤ ((10 * n / 41 : Nat) : Rat) + 1 - 1 / 2 ^ 10 := by
  have hn : (n : Rat) ≤ 2091 := by exact_mod_cast h2
  have hlo : ((41 * (10 * n / 41) : Nat) : Rat) ≤ ((10 * n : Nat) : Rat) := Nat.cast_le.mpr (Nat.mul_div_le _ _)
  have hhi : ((10 * n + 1 : Nat) : Rat) ≤ ((41 * (10 * n / 41) + 41 : Nat) : Rat) := Nat.cast_le.mpr (by omega)
  push_cast at hlo hhi
  exact div_between n (8598323/2097152) (by norm_num) (10 * n / 41) 10 (by omega) (by omega)
    (by rw [le_div_iff₀ (by norm_num)]; linarith) (by rw [div_le_iff₀ (by norm_num)]; norm_num; linarith)

/-- behind a 262 ms timer 1, from 17 ms on, timer 2 runs at 4.1 ms and counts `10 R / 41` steps: the
    float 4.1 is below 41/10 by less than 10^-7, which cannot carry the quotient over an integer -/
theorem fineOk_p2 (R : Nat) (h1 : 17 ≤ R) (h2 : R ≤ 1045) : fineOk R = true := by
  have hR : (17 : Rat) ≤ (R : Rat) := by exact_mod_cast h1
  have hlo : ((41 * (10 * R / 41) : Nat) : Rat) ≤ ((10 * R : Nat) : Rat) := Nat.cast_le.mpr (Nat.mul_div_le _ _)
  have hhi : ((10 * R + 1 : Nat) : Rat) ≤ ((41 * (10 * R / 41) + 41 : Nat) : Rat) := Nat.cast_le.mpr (by omega)
  push_cast at hlo hhi
  obtain ⟨r, hr, b1, b2, _⟩ := div_p2 R (by omega) (by omega)
  have hle : F.le (.fin (R : Rat)) (F.mul b32 (F.ofNat b32 255) (f32 (64/1000))) = false := by
    rw [show F.mul b32 (F.ofNat b32 255) (f32 (64/1000)) = .fin (8556381/524288) by decide +kernel, F.le_fin]
    exact decide_eq_false (by linarith)
  unfold fineOk
  rw [beaconFine_none, hle, if_neg Bool.false_ne_true, p2_val, beaconFine_some _ _ _ 0 (10 * R / 41)
      (by rw [hr, timerCoefficient_fin r _ b1 b2, Nat.min_eq_right (by omega)]),
    show resolBits (.fin 262) (.fin (8598323/2097152)) = 14 by decide +kernel]
  simp only [show timerStep ((14 : UInt8) &&& 3) = 41 / 10 by decide +kernel,
    u8_toNat_ofNat _ (show 10 * R / 41 ≤ 255 by omega), Bool.and_eq_true, decide_eq_true_eq]
  exact ⟨⟨⟨⟨⟨by decide, by decide⟩, by decide⟩, by linarith⟩, by linarith⟩, le_refl _⟩

/-- What timer 1 at 4.1 ms leaves of the interval: two roundings away from `n - 4.1 c1`, of a product below `2^11`
    and of a difference below `2^12`, hence within `2^-13 + 2^-12`. -/
theorem rem_p2 (n c1 : Nat) (hn0 : 0 < n) (hn : n ≤ 2091) (hc : c1 ≤ 255) (hle : 41 * c1 ≤ 10 * n) :
    ∃ rem, F.sub b32 (.fin n) (F.mul b32 (.fin (8598323/2097152)) (F.ofNat b32 c1)) = .fin rem ∧ 0 ≤ rem ∧
      |rem - ((n : Rat) - 8598323/2097152 * c1)| ≤ 3 / 8192 := by
  have hn' : (n : Rat) ≤ 2091 := by exact_mod_cast hn
  have hc' : (c1 : Rat) ≤ 255 := by exact_mod_cast hc
  have hle' : (41 : Rat) * (c1 : Rat) ≤ 10 * (n : Rat) := by exact_mod_cast hle
  obtain ⟨t, ht, t0, terr, tle⟩ := round_abs ((8598323/2097152 : Rat) * (c1 : Rat)) 11 (by positivity)
    (by norm_num; linarith) (by norm_num) (by norm_num)
  have tn := tle n hn0 (by omega) (by linarith)
  have terr' := abs_le.mp terr
  obtain ⟨rem, hrem, rem0, remerr, _⟩ := round_abs ((n : Rat) - t) 12 (by linarith) (by norm_num; linarith)
    (by norm_num) (by norm_num)
  have remerr' := abs_le.mp remerr
  refine ⟨rem, ?_, rem0, ?_⟩
  · rw [ofNat32 c1 (by omega), F.mul_fin, ht, F.sub_fin, hrem]
  · rw [abs_le]; norm_num at terr' remerr' ⊢; constructor <;> linarith only [terr'.1, terr'.2, remerr'.1, remerr'.2]

/-- 33 .. 1061 ms: timer 1 at 4.1 ms counts `10 n / 41` steps (at most 255), timer 2 at 64 us counts
    down what is left, which the float operations know to better than half a step -/
theorem beaconOk_b2 (n : Nat) (h1 : 33 ≤ n) (h2 : n ≤ 1061) : beaconOk n = true := by
  have hn1 : (33 : Rat) ≤ (n : Rat) := by exact_mod_cast h1
  have hn2 : (n : Rat) ≤ 1061 := by exact_mod_cast h2
  have hch : beaconChoice (F.ofNat b32 n) = (.fin (8598323/2097152), F.div b32 (.fin n) (.fin (8598323/2097152)),
      some (.fin (8589935/134217728))) := by
    rw [ofNat32 n (by omega), beaconChoice_fin, if_neg (by linarith),
      if_pos (by linarith)]
  obtain ⟨r1, hr1, a1, a2, _⟩ := div_p2 n (by omega) (by omega)
  have ht := beaconTimers_of n _ _ _ _ hch (by rw [hr1]; exact timerCoefficient_fin r1 _ a1 a2)
  rw [ofNat32 n (by omega)] at ht
  generalize hc1 : min 255 (10 * n / 41) = c1 at ht
  -- at most 15.5 ms are left (1061 - 4.1 * 255), so the quotient by 0.064 stays below 2^8 and inside the coefficient's range
  have hc : c1 ≤ 255 ∧ 4100 * c1 ≤ 1000 * n ∧ 1000 * n - 4100 * c1 ≤ 15500 := by omega
  obtain ⟨c255, cle, cA⟩ := hc
  have c255' : (c1 : Rat) ≤ 255 := by exact_mod_cast c255
  have hA : ((1000 * n - 4100 * c1 : Nat) : Rat) = 1000 * (n : Rat) - 4100 * (c1 : Rat) := by
    rw [Nat.cast_sub cle]; push_cast; ring
  have hA2 : ((1000 * n - 4100 * c1 : Nat) : Rat) ≤ 15500 := by exact_mod_cast cA
  have hA0 : (0 : Rat) ≤ ((1000 * n - 4100 * c1 : Nat) : Rat) := Nat.cast_nonneg _
  rw [hA] at hA2 hA0
  obtain ⟨rem, hrem, rem0, remerr⟩ := rem_p2 n c1 (by omega) (by omega) c255 (by omega)
  have remerr' := abs_le.mp remerr
  obtain ⟨r, hr, r0, rerr, _⟩ := round_abs (rem / (8589935/134217728)) 8 (by positivity)
    (by rw [div_le_iff₀ (by norm_num)]; norm_num at remerr' ⊢; linarith only [remerr'.2, c255', hA2, hA0, hn1, hn2])
    (by norm_num) (by norm_num)
  have rerr' := abs_le.mp rerr
  have near : |((64 : Nat) : Rat) * r - ((1000 * n - 4100 * c1 : Nat) : Rat)| < 1 := by
    rw [hA, abs_lt]; norm_num at remerr' rerr' ⊢
    constructor <;> linarith only [remerr'.1, remerr'.2, rerr'.1, rerr'.2, c255', hA2, hA0, hn1, hn2]
  obtain ⟨c2, hc2, c2le, lo, hi⟩ := timerCoefficient_near r 64 (1000 * n - 4100 * c1) (by norm_num) r0 near (by omega)
  rw [hrem, beaconFine_some _ _ _ _ c2 (by rw [F.div_fin b32 rem (by norm_num), hr]; exact hc2),
    show resolBits (.fin (8598323/2097152)) (.fin (8589935/134217728)) = 9 by decide +kernel] at ht
  have lo' : ((4100 * c1 + 64 * c2 : Nat) : Rat) ≤ ((1000 * n : Nat) : Rat) := Nat.cast_le.mpr (by omega)
  have hi' : ((1000 * n : Nat) : Rat) ≤ ((4100 * c1 + 64 * c2 + 64 : Nat) : Rat) := Nat.cast_le.mpr (by omega)
  push_cast at lo' hi'
  exact beaconOk_of ht c255 c2le (by decide +kernel : _ = (41 / 10 : Rat)) (by decide +kernel : _ = (64 / 1000 : Rat))
    (by decide) (by norm_num) (by linarith only [lo']) (by linarith only [hi']) (Or.inl (by norm_num))

/-- 1062 .. 2091 ms: both timers at 4.1 ms -/
theorem beaconOk_b3 (n : Nat) (h1 : 1062 ≤ n) (h2 : n ≤ 2091) : beaconOk n = true := by
  have hn1 : (1062 : Rat) ≤ (n : Rat) := by exact_mod_cast h1
  have hn2 : (n : Rat) ≤ 2091 := by exact_mod_cast h2
  have hk3 : ((2 * (10 * n / 82) : Nat) : Rat) ≤ ((10 * n / 41 : Nat) : Rat) := Nat.cast_le.mpr (by omega)
  have hk4 : ((10 * n / 41 : Nat) : Rat) ≤ ((2 * (10 * n / 82) + 1 : Nat) : Rat) := Nat.cast_le.mpr (by omega)
  push_cast at hk3 hk4
  have hch : beaconChoice (F.ofNat b32 n) = (.fin (8598323/2097152),
      F.div b32 (F.div b32 (.fin n) (.fin (8598323/2097152))) (.fin 2), some (.fin (8598323/2097152))) := by
    rw [ofNat32 n (by omega), beaconChoice_fin, if_neg (by linarith),
      if_neg (by linarith), if_pos (by linarith)]
  obtain ⟨r1, hr1, a1, _, a3⟩ := div_p2 n (by omega) h2
  obtain ⟨r2, hr2, b1, b2, _⟩ := div_between r1 2 (by norm_num) (10 * n / 82) 11 (by omega) (by omega)
    (by rw [le_div_iff₀ (by norm_num)]; linarith only [a1, hk3])
    (by rw [div_le_iff₀ (by norm_num)]; norm_num at a3 ⊢; linarith only [a3, hk4])
  have ht := beaconTimers_of n _ _ _ _ hch (by rw [hr1, hr2]; exact timerCoefficient_fin r2 _ b1 b2)
  rw [ofNat32 n (by omega), Nat.min_eq_right (by omega)] at ht
  generalize hc1 : 10 * n / 82 = c1 at ht
  -- what is left is below 256 steps of 4.1 ms (41 * 256 = 10496): the coefficient of timer 2 does not saturate wrongly
  have hc : c1 ≤ 255 ∧ 82 * c1 ≤ 10 * n ∧ 10 * n - 41 * c1 ≤ 10495 := by omega
  obtain ⟨c255, cle, cA⟩ := hc
  have c255' : (c1 : Rat) ≤ 255 := by exact_mod_cast c255
  have cle' : (82 : Rat) * (c1 : Rat) ≤ 10 * (n : Rat) := by exact_mod_cast cle
  have hA : ((10 * n - 41 * c1 : Nat) : Rat) = 10 * (n : Rat) - 41 * (c1 : Rat) := by
    rw [Nat.cast_sub (by omega)]; push_cast; ring
  have hA2 : ((10 * n - 41 * c1 : Nat) : Rat) ≤ 10495 := by exact_mod_cast cA
  rw [hA] at hA2
  obtain ⟨rem, hrem, rem0, remerr⟩ := rem_p2 n c1 (by omega) h2 c255 (by omega)
  have remerr' := abs_le.mp remerr
  obtain ⟨r, hr, r0, rerr, _⟩ := round_abs (rem / (8598323/2097152)) 9 (by positivity)
    (by rw [div_le_iff₀ (by norm_num)]; norm_num at remerr' ⊢; linarith only [remerr'.2, c255', hA2, cle', hn1, hn2])
    (by norm_num) (by norm_num)
  have rerr' := abs_le.mp rerr
  have near : |((41 : Nat) : Rat) * r - ((10 * n - 41 * c1 : Nat) : Rat)| < 1 := by
    rw [hA, abs_lt]; norm_num at remerr' rerr' ⊢
    constructor <;> linarith only [remerr'.1, remerr'.2, rerr'.1, rerr'.2, c255', hA2, cle', hn1, hn2]
  obtain ⟨c2, hc2, c2le, lo, hi⟩ := timerCoefficient_near r 41 (10 * n - 41 * c1) (by norm_num) r0 near (by omega)
  rw [hrem, beaconFine_some _ _ _ _ c2 (by rw [F.div_fin b32 rem (by norm_num), hr]; exact hc2),
    show resolBits (.fin (8598323/2097152)) (.fin (8598323/2097152)) = 10 by decide +kernel] at ht
  have lo' : ((41 * c1 + 41 * c2 : Nat) : Rat) ≤ ((10 * n : Nat) : Rat) := Nat.cast_le.mpr (by omega)
  have hi' : ((10 * n : Nat) : Rat) ≤ ((41 * c1 + 41 * c2 + 41 : Nat) : Rat) := Nat.cast_le.mpr (by omega)
  push_cast at lo' hi'
  exact beaconOk_of ht c255 c2le (by decide +kernel : _ = (41 / 10 : Rat)) (by decide +kernel : _ = (41 / 10 : Rat))
    (by decide) (le_refl _) (by linarith only [lo']) (by linarith only [hi']) (Or.inl (le_refl _))

end Sx
