import Sx.Lemmas.Bytes
import Sx.Lemmas.RxSteps
/- A reception of the frame `hdr ++ P` on the environment side (`RxGI`, `Fwd`), and the header step of the driver:
   from a frame of the configured format (`HdrOk`) it computes the payload length `P.length` (`header_spec`). -/
namespace Sx
open Sx.Model DM

/-- the ghost side of a reception of the frame `hdr ++ P` -/
structure RxGI (hdr P : List UInt8) (g : RxG) : Prop where
  wf : g.Wf
  live : g.live
  stream : g.taken ++ g.fifo ++ g.pending = hdr ++ P

/-- `g1` is reached from `g` by arrivals, possibly with one failed transfer (`faulted`) -/
structure Fwd (hdr P : List UInt8) (g g1 : RxG) : Prop where
  gi : RxGI hdr P g1
  same : g.Same g1
  len : g.fifo.length ≤ g1.fifo.length
  kept : (g.over = true → g.ready = true) → (g1.over = true → g1.ready = true)
  taken : g1.taken = g.taken
  over : g.over = true → g1.over = true

theorem Fwd.of_adv {hdr P g g1} (hi : RxGI hdr P g) (ha : g.Adv g1) : Fwd hdr P g g1 := by
  obtain ⟨hw1, hst, hlen, hov, hk, htk⟩ := ha.facts hi.wf
  refine ⟨⟨hw1, ha.live hi.live, ?_⟩, ha.same, hlen, hk, htk, fun h => (hov h).1⟩
  rw [htk, List.append_assoc, hst, ← List.append_assoc]; exact hi.stream

theorem RxGI.faulted {hdr P g} (hi : RxGI hdr P g) : RxGI hdr P { g with faulted := true } :=
  ⟨⟨hi.wf.overPending, hi.wf.readyOver, hi.wf.crc, hi.wf.crcReady, hi.wf.room⟩, hi.live, hi.stream⟩

theorem RxGI.irq {hdr P g} (hi : RxGI hdr P g) (v : UInt8) : RxGI hdr P { g with irq := v } :=
  ⟨⟨hi.wf.overPending, hi.wf.readyOver, hi.wf.crc, hi.wf.crcReady, hi.wf.room⟩, hi.live, hi.stream⟩

theorem Fwd.of_advF {hdr P g g'} (hi : RxGI hdr P g) (ha : g.AdvF g') : Fwd hdr P g g' ∧ g'.faulted = true := by
  obtain ⟨g1, ha1, rfl⟩ := ha
  have f := Fwd.of_adv hi ha1
  exact ⟨⟨f.gi.faulted, f.same.trans (RxG.Same.faulted g1), f.len, f.kept, f.taken, f.over⟩, rfl⟩

theorem RxGI.take {hdr P g} (hi : RxGI hdr P g) {n : Nat} (hn : n ≤ g.fifo.length) : RxGI hdr P (g.take n) := by
  obtain ⟨hw, hs, htk, hfifo, hpend, _, _⟩ := RxG.take_facts g n hn hi.wf
  refine ⟨hw, hs.live hi.live, ?_⟩
  rw [htk, hfifo, hpend, List.append_assoc g.taken, List.take_append_drop]
  exact hi.stream

theorem take_prefix {a b c d : List UInt8} (h : a ++ b = c ++ d) (hl : c.length ≤ a.length) : a.take c.length = c := by
  rw [← List.take_append_of_le_length (l₂ := b) hl, h, List.take_left]

theorem take_hdr {hdr P : List UInt8} {g g1 : RxG} (hi : RxGI hdr P g) (ha : g.Adv g1) (htk : g.taken = [])
    (hfifo : hdr.length ≤ g.fifo.length) :
    g1.fifo.take hdr.length = hdr ∧ RxGI hdr P (g1.take hdr.length) ∧ (g1.take hdr.length).taken = hdr
      ∧ g.fifo.length ≤ (g1.take hdr.length).fifo.length + hdr.length ∧ g.Same (g1.take hdr.length)
      ∧ ((g.over = true → g.ready = true) → hdr.length < g.fifo.length → ((g1.take hdr.length).over = true → (g1.take hdr.length).ready = true))
      ∧ (g.over = true → (g1.take hdr.length).over = true) := by
  have hf := Fwd.of_adv hi ha
  have hlen := hf.len
  have hn : hdr.length ≤ g1.fifo.length := Nat.le_trans hfifo hlen
  have htk1 : g1.taken = [] := hf.taken.trans htk
  have hst := hf.gi.stream
  rw [htk1, List.nil_append] at hst
  have hpre := take_prefix hst hn
  obtain ⟨_, hs2, htk2, hfifo2, _, hover2, hrdy2⟩ := RxG.take_facts g1 hdr.length hn hf.gi.wf
  refine ⟨hpre, hf.gi.take hn, by rw [htk2, htk1, List.nil_append, hpre], ?_, hf.same.trans hs2, ?_,
    fun ho => by rw [hover2]; exact hf.over ho⟩
  · rw [hfifo2, List.length_drop]; omega
  · intro hk hlt ho
    have hne : g1.fifo.drop hdr.length ≠ [] := fun he => by
      have := congrArg List.length he
      rw [List.length_drop, List.length_nil] at this; omega
    rw [(hrdy2 hne).1]
    exact hf.kept hk (by rw [← hover2]; exact ho)

def afOf (cfg1 : UInt8) : Bool := decide ((cfg1 &&& 0x06).toNat = Gen.SX127X_FILTER_NODE_ADDRESS ∨ (cfg1 &&& 0x06).toNat = Gen.SX127X_FILTER_NODE_AND_BROADCAST)
def fixedLenOf (cfg2 plen : UInt8) : UInt16 := (((cfg2 &&& 0x07).toUInt16) <<< 8) + plen.toUInt16

/-- the frame has the shape the configured packet format announces: length byte (variable
    format, counting the address byte), address byte when filtering is on, payload `P` -/
def HdrOk (fmt : Nat) (g : RxG) (hdr P : List UInt8) : Prop :=
  (fmt = Gen.SX127X_VARIABLE ∧ ∃ len rest, hdr = len :: rest ∧ rest.length = (if afOf g.cfg1 then 1 else 0)
      ∧ len.toNat = P.length + rest.length) ∨
  (fmt = Gen.SX127X_FIXED ∧ hdr.length = (if afOf g.cfg1 then 1 else 0)
      ∧ (fixedLenOf g.cfg2 g.plen).toNat = hdr.length + P.length)

/-- the driver's payload length: the announced length, less the address byte when there is one -/
theorem payload_len (af : Bool) (len : UInt16) (n : Nat) (h : len.toNat = n + (if af then 1 else 0)) :
    (if af = true ∧ len > 0 then len - 1 else len) = UInt16.ofNat n := by
  apply UInt16.toNat_inj.mp
  have hlt := len.toNat_lt
  cases af with
  | true =>
    rw [if_pos rfl] at h
    have h1 : (1 : UInt16).toNat ≤ len.toNat := by show 1 ≤ len.toNat; omega
    rw [if_pos ⟨rfl, h1⟩, UInt16.toNat_sub_of_le _ _ h1, ofNat16 n (by omega), h]; rfl
  | false =>
    rw [if_neg Bool.false_ne_true] at h
    rw [if_neg (fun hx => Bool.false_ne_true hx.1), ofNat16 n (by omega), h]; rfl

theorem header_spec (hdr P : List UInt8) (h : Handle) (g : RxG) (hi : RxGI hdr P g) (hexp : h.expected = 0)
    (htk : g.taken = []) (hfifo : hdr.length ≤ g.fifo.length) (hok : HdrOk h.format g hdr P) :
    DM.gwp rxE readPayloadHeader h g (fun g' r h' =>
      (r = .ok (some hdr.length) ∧ h' = { h with expected := UInt16.ofNat P.length } ∧ RxGI hdr P g' ∧ g'.taken = hdr
      ∧ g.fifo.length ≤ g'.fifo.length + hdr.length ∧ g.Same g'
      ∧ ((g.over = true → g.ready = true) → hdr.length < g.fifo.length → (g'.over = true → g'.ready = true))
      ∧ (g.over = true → g'.over = true))
      -- a transfer failed: nothing was taken out of the FIFO and the handle is what it was
      ∨ (∃ c, r = .error c ∧ h' = h ∧ Fwd hdr P g g' ∧ g'.faulted = true)) := by
  unfold readPayloadHeader
  rw [gwp_bind, gwp_getH]
  dsimp only
  rw [if_neg (by rw [hexp]; exact fun hn => hn rfl)]
  unfold fskOokIsAddressFiltered
  rw [gwp_bind, gwp_bind]
  refine gwp_rx_const hi.live rxAnswer_cfg1.mp (fun c _ hf => Or.inr ⟨c, rfl, rfl, Fwd.of_advF hi hf⟩) fun g1 ha1 => ?_
  dsimp only
  rw [gwp_pure]
  dsimp only
  generalize haf : decide ((g.cfg1 &&& 6).toNat = Gen.SX127X_FILTER_NODE_ADDRESS ∨ (g.cfg1 &&& 6).toNat = Gen.SX127X_FILTER_NODE_AND_BROADCAST) = af
  have haf' : afOf g.cfg1 = af := haf
  unfold HdrOk at hok
  rw [haf'] at hok
  rcases hok with ⟨hfmt, len, rest, hhdr, hrest, hlen⟩ | ⟨hfmt, hhl, hfl⟩
  · -- variable format: length byte and address byte leave the FIFO in one transfer
    rw [if_neg (by rw [hfmt]; decide), if_pos hfmt]
    have hn : (if af = true then 2 else 1) = hdr.length := by
      rw [hhdr, List.length_cons, hrest]; cases af <;> rfl
    rw [hn, gwp_bind]
    refine gwp_rx_bread (ha1.live hi.live) _ (fun c _ hf => Or.inr ⟨c, rfl, rfl, Fwd.of_advF hi (ha1.advF hf)⟩)
      fun d g2 ha2 _ hdv => ?_
    have ha := ha1.trans ha2
    obtain ⟨hpre, hpost⟩ := take_hdr hi ha htk hfifo
    have hd : d = len :: rest := by
      rw [hdv (Nat.le_trans hfifo (Fwd.of_adv hi ha).len), hpre, hhdr]
    subst hd
    dsimp only
    rw [gwp_bind, gwp_modH]
    dsimp only
    rw [gwp_pure]
    refine Or.inl ⟨rfl, ?_, hpost⟩
    have hlen16 : len.toUInt16.toNat = P.length + (if af then 1 else 0) := by rw [← hrest, ← hlen]; simp
    exact congrArg (fun e => { h with expected := e }) (payload_len af len.toUInt16 P.length hlen16)
  · -- fixed format: the length comes from two more configuration registers
    rw [if_pos hfmt]
    unfold fskOokReadFixedPacketLength
    rw [gwp_bind, gwp_bind]
    refine gwp_rx_const (ha1.live hi.live) rxAnswer_cfg2.mp (fun c _ hf => Or.inr ⟨c, rfl, rfl, Fwd.of_advF hi (ha1.advF hf)⟩) fun g2 ha2 => ?_
    have ha12 := ha1.trans ha2
    dsimp only
    rw [gwp_bind]
    refine gwp_rx_const (ha12.live hi.live) rxAnswer_plen.mp (fun c _ hf => Or.inr ⟨c, rfl, rfl, Fwd.of_advF hi (ha12.advF hf)⟩) fun g3 ha3 => ?_
    have ha13 := ha12.trans ha3
    dsimp only
    rw [gwp_pure]
    dsimp only
    rw [ha1.same.cfg2, ha12.same.plen]
    have hflv : (((g.cfg2 &&& 7).toUInt16 <<< 8) + g.plen.toUInt16) = fixedLenOf g.cfg2 g.plen := rfl
    rw [hflv, payload_len af _ P.length (by rw [hfl, hhl, Nat.add_comm])]
    cases af with
    | true =>
      rw [if_pos rfl] at hhl
      rw [if_pos rfl, if_pos (by decide), ← hhl, gwp_bind]
      refine gwp_rx_bread (ha13.live hi.live) _ (fun c _ hf => Or.inr ⟨c, rfl, rfl, Fwd.of_advF hi (ha13.advF hf)⟩)
        fun d g4 ha4 _ _ => ?_
      dsimp only
      rw [gwp_bind, gwp_modH]
      dsimp only
      rw [gwp_pure]
      exact Or.inl ⟨rfl, rfl, (take_hdr hi (ha13.trans ha4) htk hfifo).2⟩
    | false =>
      rw [if_neg Bool.false_ne_true] at hhl
      rw [if_neg Bool.false_ne_true, if_neg (by decide), gwp_bind, gwp_modH]
      dsimp only
      rw [gwp_pure]
      have hnil : hdr = [] := List.eq_nil_of_length_eq_zero hhl
      subst hnil
      exact Or.inl ⟨rfl, rfl, (take_hdr hi ha13 htk hfifo).2⟩
end Sx
