import Sx.Lemmas.ContractAll
/-
  Refinement between the two interpreters of the same program: with the register cache
  (`cached = true`) and without.  Simulation relation `RW`: same chip, same callbacks, same
  writes on the bus in the same order, never more transfers with the cache; the cached world
  satisfies the coherence invariant.
-/
namespace Sx
open Mem Chip Cache

def writesOf (bus : List BusEv) : List BusEv := bus.filter BusEv.isWrite

structure RW (wc wu : World) : Prop where
  chip : wc.chip = wu.chip
  inv : Inv wc
  cbs : wc.cbs = wu.cbs
  writes : writesOf wc.bus = writesOf wu.bus
  count : wc.bus.length ≤ wu.bus.length
  pc : wc.Plain
  pu : wu.Plain

theorem RW.setCache {wc wu : World} (r : RW wc wu) {k : Cache} (i : Inv { wc with cache := k }) :
    RW { wc with cache := k } wu :=
  ⟨r.chip, i, r.cbs, r.writes, r.count, r.pc, r.pu⟩

/-- `k` is the cache the cached build goes on to store after the transfer -/
theorem rw_transfer {β : Type} {wc wu : World} (r : RW wc wu) (act : Chip → β × Chip) (ev : Except Code β → BusEv)
    (k : Cache) (i : Inv { (wc.transfer act ev).2 with cache := k }) :
    (wc.transfer act ev).1 = (wu.transfer act ev).1 ∧
      RW { (wc.transfer act ev).2 with cache := k } (wu.transfer act ev).2 := by
  have hu := World.transfer_plain r.pu act ev
  rw [← r.chip] at hu
  rw [World.transfer_plain r.pc] at i ⊢
  rw [hu]
  refine ⟨rfl, rfl, i, r.cbs, ?_, Nat.succ_le_succ r.count, r.pc, r.pu⟩
  simp only [writesOf, List.filter_cons]
  rw [show wc.bus.filter BusEv.isWrite = wu.bus.filter BusEv.isWrite from r.writes]

theorem rw_busRead {wc wu : World} (r : RW wc wu) (reg n : Nat) :
    (wc.busRead reg n).1 = (wu.busRead reg n).1 ∧ RW (wc.busRead reg n).2 (wu.busRead reg n).2 :=
  rw_transfer r (fun c => (be32 (c.readN reg n).1, (c.readN reg n).2)) (.r reg n) (wc.busRead reg n).2.cache
    (busRead_inv r.inv reg n)

theorem rw_busReadBuf {wc wu : World} (r : RW wc wu) (reg n : Nat) :
    (wc.busReadBuf reg n).1 = (wu.busReadBuf reg n).1 ∧ RW (wc.busReadBuf reg n).2 (wu.busReadBuf reg n).2 :=
  rw_transfer r (fun c => c.readN reg n) (.rb reg n) (wc.busReadBuf reg n).2.cache (busReadBuf_inv r.inv reg n)

/-- the two interpreters answer a request alike; under the contract neither reaches undefined
    behaviour in the shadow layer -/
def StepRel {α : Type} (sc su : Step α) : Prop :=
  match sc, su with
  | .ok r w, .ok r' w' => r = r' ∧ RW w w'
  | _, _ => False

theorem hit_values {wc wu : World} (r : RW wc wu) (reg n : Nat) (h1 : 1 ≤ reg) (hn : reg + n ≤ Cache.N)
    (hc : ∀ i, i < n → wc.cache.isCached (reg + i) = true) :
    wu.chip.readN reg n = (wc.cache.vals.rds reg n, wu.chip) := by
  rw [readN_pure wu.chip reg n h1 (by rw [N_eq] at hn; omega)]
  congr 1
  apply List.map_congr_left
  intro i hi
  have hi' : i < n := List.mem_range.1 hi
  have haN : reg + i < Cache.N := by omega
  rw [r.inv.coh (reg + i) haN (hc i hi'), r.chip, peek_eq_cell (not_vol_of_cached r.inv.cache haN (hc i hi'))]

/-- a hit: the cached build does nothing, the other one a read that leaves the chip as it is -/
theorem RW.hit {wc wu : World} (r : RW wc wu) {reg n : Nat} (h1 : 1 ≤ reg) (hn : reg + n ≤ Cache.N)
    (hc : ∀ i, i < n → wc.cache.isCached (reg + i) = true) :
    (wu.busRead reg n).1 = .ok (be32 (wc.cache.vals.rds reg n)) ∧ RW wc (wu.busRead reg n).2 := by
  rw [busRead_plain r.pu, hit_values r reg n h1 hn hc]
  exact ⟨rfl, r.chip, r.inv, r.cbs, r.writes, Nat.le_succ_of_le r.count, r.pc, r.pu⟩

theorem rel_sread {wc wu : World} (r : RW wc wu) (reg n : Nat) (hp : ContractReq (.sread reg n)) :
    StepRel (Shadow.sread true wc reg n) (Shadow.sread false wu reg n) := by
  obtain ⟨hn1, hn4, hr1, hrn⟩ := hp
  have hsize : wc.cache.size = Cache.N := r.inv.cache.hs
  have hb := rw_busRead r reg n
  rw [Shadow.sread_false]
  refine Shadow.sread_cases (M := (StepRel · _)) (.inl ⟨hn1, by rw [hsize]; exact hrn⟩) (fun _ _ hfull => ?_) hb
    fun _ hig hsz v w1 hbr => ?_
  · have := r.hit hr1 hrn (prefixLen_full hfull)
    exact ⟨this.1.symm, this.2⟩
  · rw [hbr] at hb
    exact ⟨hb.1, hb.2.setCache (fill_inv r.inv hn4 hr1 hsz hbr)⟩

theorem rel_rread {wc wu : World} (r : RW wc wu) (reg : Nat) (hp : ContractReq (.rread reg)) :
    StepRel (Shadow.rread true wc reg) (Shadow.rread false wu reg) := by
  have hp' : reg ≤ 0x70 := hp
  have hsize : wc.cache.size = Cache.N := r.inv.cache.hs
  have hb := rw_busRead r reg 1
  rw [Shadow.rread_false]
  have hb' : StepRel (.ok ((wc.busRead reg 1).1.map UInt32.toUInt8) (wc.busRead reg 1).2)
      (.ok ((wu.busRead reg 1).1.map UInt32.toUInt8) (wu.busRead reg 1).2) := ⟨by rw [hb.1], hb.2⟩
  refine Shadow.rread_cases (M := (StepRel · _)) (.inl (by rw [hsize, N_eq]; omega)) (fun _ hig hcached => ?_) hb'
    fun _ hig hsz v w1 hbr => ?_
  · have := r.hit (n := 1) (r.inv.cache.pos_of_not_ignore hig) (by rw [N_eq]; omega) (fun i hi => by
      rw [show i = 0 by omega]; exact hcached)
    refine ⟨?_, this.2⟩
    rw [this.1]
    exact congrArg Except.ok (be32_single _).symm
  · rw [hbr] at hb hb'
    exact ⟨hb'.1, hb.2.setCache (byteOf_one v ▸ fill_inv r.inv (by decide) (r.inv.cache.pos_of_not_ignore hig) hsz hbr)⟩

theorem rel_swrite {wc wu : World} (r : RW wc wu) (reg : Nat) (d : List UInt8) (hp : ContractReq (.swrite reg d)) :
    StepRel (Shadow.swrite true wc reg d) (Shadow.swrite false wu reg d) := by
  obtain ⟨hl1, hl4, hlen, hreq⟩ := hp
  have hsize : wc.cache.size = Cache.N := r.inv.cache.hs
  rw [Shadow.swrite_false]
  refine Shadow.swrite_cases (M := fun s => s.Holds Inv → StepRel s _) (.inl (by rw [hsize]; exact hlen))
    (fun h _ => ?_) (fun _ _ w1 hb i => ?_) (swrite_inv r.inv reg d hreq)
  · rw [busWrite_plain r.pc] at h
    rcases h with h | ⟨c, h⟩ <;> cases h
  · have := rw_transfer r (fun c => ((), c.writeN reg d)) (.w reg d) _ (by rw [← wc.busWrite_eq, hb]; exact i)
    rw [← wc.busWrite_eq, ← wu.busWrite_eq, hb] at this
    exact this

theorem rel_bwrite {wc wu : World} (r : RW wc wu) (reg : Nat) (d : List UInt8) (hp : ContractReq (.bwrite reg d)) :
    StepRel (Shadow.bwrite true wc reg d) (Shadow.bwrite false wu reg d) := by
  have hsize : wc.cache.size = Cache.N := r.inv.cache.hs
  have hb := rw_transfer r (fun c => ((), c.writeN reg d)) (.wb reg d)
  rw [← wc.busWriteBuf_eq, ← wu.busWriteBuf_eq] at hb
  rw [Shadow.bwrite_false]
  refine Shadow.bwrite_cases (M := fun s => s.Holds Inv → StepRel s _)
    (.inl fun h0 => by rw [hsize]; exact (hp.2.resolve_left h0).2)
    (fun h i => ?_) (fun _ _ _ w1 hbw i => ?_) (bwrite_inv r.inv reg d hp.coh)
  · exact hb _ i
  · have := hb _ (by rw [hbw]; exact i)
    rw [hbw] at this
    exact this

theorem rel_step {wc wu : World} (r : RW wc wu) (q : Req) (hp : ContractReq q) :
    StepRel (Shadow.step true wc q) (Shadow.step false wu q) := by
  cases q with
  | sread reg n => exact rel_sread r reg n hp
  | rread reg => exact rel_rread r reg hp
  | swrite reg d => exact rel_swrite r reg d hp
  | bwrite reg d => exact rel_bwrite r reg d hp
  | bread reg n => exact rw_busReadBuf r reg n
  | rawbread reg n => exact rw_busReadBuf r reg n

/-- outcomes of the two interpreters: the same value (or the same undefined behaviour of the
    program itself) in related worlds -/
def OutRel {α : Type} (oc ou : Outcome α) : Prop :=
  match oc, ou with
  | .done a w, .done b w' => a = b ∧ RW w w'
  | .ub u _, .ub u' _ => u = u'
  | _, _ => False

theorem OutRel.cases {α : Type} {oc ou : Outcome α} (h : OutRel oc ou) :
    (∃ a wc wu, oc = .done a wc ∧ ou = .done a wu ∧ RW wc wu) ∨ ∃ u wc wu, oc = .ub u wc ∧ ou = .ub u wu := by
  cases oc <;> cases ou <;> simp only [OutRel] at h
  · obtain ⟨rfl, h⟩ := h
    exact .inl ⟨_, _, _, rfl, rfl, h⟩
  · subst h
    exact .inr ⟨_, _, _, rfl, rfl⟩

/-- **Simulation.** A program whose requests are within the SPI contract behaves the same under
    both interpreters. -/
theorem execG_sim (onC onU : CbEvent → Handle → World → Outcome Handle)
    (hcb : ∀ e h wc wu, RW wc wu → OutRel (onC e h wc) (onU e h wu))
    (p : Prog α) (hp : p.All ContractReq) (wc wu : World) (r : RW wc wu) :
    OutRel (execG true onC p wc) (execG false onU p wu) := by
  induction p using Prog.req_induction generalizing wc wu with
  | ret a => exact ⟨rfl, r⟩
  | ub u => rfl
  | req q k ih =>
    rw [execG_req, execG_req]
    have := rel_step r q (Prog.All_req.1 hp).1
    generalize Shadow.step true wc q = a at this
    generalize Shadow.step false wu q = b at this
    cases a <;> cases b <;> simp only [StepRel] at this
    obtain ⟨rfl, h2⟩ := this
    exact ih _ ((Prog.All_req.1 hp).2 _) _ _ h2
  | callback e h k ih =>
    simp only [execG]
    rcases (hcb e h wc wu r).cases with ⟨h', wc', wu', h1, h2, r'⟩ | ⟨u, wc', wu', h1, h2⟩ <;> rw [h1, h2]
    · exact ih _ (hp _) _ _ r'
    · rfl

end Sx
