import Sx.Lemmas.Bytes
import Sx.Sys
import Sx.Lemmas.Safe
import Sx.Lemmas.SafePost
import Sx.Lemmas.RxLen
import Sx.Lemmas.Mem
/-
  Per-function lemmas for C08: no access outside `device->packet` or the caller's frequency list
  (nor any other undefined behaviour except the float→integer conversions and the two
  loops with fuel, which are treated separately), for every answer of chip and bus that
  `Prog.Safe` admits (failures, and values of the size asked for).
-/
namespace Sx
open Sx.Model DM

def memBad (u : UB) : Prop := u ≠ .castRange ∧ u ≠ .fuel

instance (u : UB) : Decidable (memBad u) := by unfold memBad; exact inferInstance

/-- what every API call relies on and re-establishes: the packet buffer has its size, and a
    registered frequency list has at least `frequencies_length ≥ 1` entries; the count of bytes received
    or sent so far is within the buffer -/
def HInv (cap : Nat) (h : Handle) : Prop :=
  h.packet.length = cap ∧ (∀ l, h.freqs = some l → 1 ≤ h.freqLen.toNat ∧ h.freqLen.toNat ≤ l.length)
    ∧ h.received.toNat ≤ cap

/-- what the driver may hand to a callback: the length of a receive callback is within the packet
    buffer, and the bytes it announces are there (`data` is `packet[0..len)` cut at the buffer's
    end, so `data.length = len` says that nothing was cut) -/
def CbLen (cap : Nat) : CbEvent → Prop
  | .rx d n => n ≤ cap ∧ d.length = n
  | _ => True

abbrev SafeM (cap : Nat) (x : DM α) : Prop := SafeI memBad (CbLen cap) (HInv cap) x

variable {cap : Nat}

@[safe] theorem s_setFrequency (f : UInt64) : SafeM cap (setFrequency f) := by unfold setFrequency; safe_walk

theorem s_packetStore (i : Nat) (v : UInt8) (hi : i < cap) : SafeM cap (packetStore i v) := by
  unfold packetStore
  apply SafeI_getH_bind; intro h hh
  rw [if_pos (by rw [hh.1]; exact hi)]
  apply SafeI_setH
  exact ⟨by simp [Mem.wr, hh.1], hh.2⟩

theorem s_packetCopy (off : Nat) (d : List UInt8) (hd : off + d.length ≤ cap) : SafeM cap (packetCopy off d) := by
  unfold packetCopy
  apply SafeI_getH_bind; intro h hh
  rw [if_pos (by rw [hh.1]; exact hd)]
  apply SafeI_setH
  exact ⟨by rw [Mem.length_wrs]; exact hh.1, hh.2⟩

theorem HInv.advance {h : Handle} (hh : HInv cap h) (p : Mem) (hp : p.length = cap) (t : UInt16)
    (ht : h.received.toNat + t.toNat ≤ cap) : HInv cap { h with packet := p, received := h.received + t } :=
  ⟨hp, hh.2.1, Nat.le_trans (u16_add_toNat_le _ _) ht⟩

theorem s_drainLoop (fuel : Nat) : SafeM cap (drainLoop fuel) :=
  ⟨fun h hh => safe_drainLoop (fun _ => HInv cap) (fun _ _ hi => hi) (fun _ _ => by decide)
    (fun _ h _ hh hidx => hh.advance _ (by simp [Mem.wr, hh.1]) 1 (by show _ + 1 ≤ cap; rw [← hh.1]; omega)) fuel h hh⟩

@[safe] theorem s_batch (fuel : Nat) (b : Bool) : SafeM cap (fskOokReadPayloadBatch fuel b) := by
  unfold fskOokReadPayloadBatch
  apply SafeI_bind (by unfold readPayloadHeader; safe_walk); intro hdr
  cases hdr with
  | none => exact SafeI_pure _
  | some consumed =>
    dsimp only
    constructor
    intro h hh
    rw [Safe_at_getH_bind]
    -- everything received, or a packet that does not fit the buffer
    refine Safe_at_ite h (fun _ => (Safe_at_pure _ _).mpr hh) fun _ =>
      Safe_at_ite h (fun _ => (Safe_at_fail _ _).mpr hh) fun hfit => ?_
    have hfit' : h.expected.toNat ≤ cap := by rw [← hh.1]; omega
    -- a batch of half the FIFO, the rest of a packet that fits the FIFO, or the byte-wise drain
    refine Safe_at_ite h (fun _ => Safe_at_ite h (fun hb => ?_) fun _ => (Safe_at_pure _ _).mpr hh) fun _ =>
      Safe_at_ite h (fun hs => ?_) fun _ => (s_drainLoop _).s h hh
    · have hroom : h.received.toNat + (Gen.HALF_MAX_FIFO_THRESHOLD - 1) ≤ cap := by omega
      rw [if_pos (by rw [hh.1]; exact hroom)]
      apply Safe_at_bread_bind _ _ _ _ hh; intro d hd
      apply Safe_at_packetCopy_bind _ _ _ _ (by rw [hd, hh.1]; exact hroom)
      rw [Safe_at_modH]
      have h1 : (UInt16.ofNat (Gen.HALF_MAX_FIFO_THRESHOLD - 1)).toNat = Gen.HALF_MAX_FIFO_THRESHOLD - 1 := by decide
      exact hh.advance _ (by simp [hh.1]) _ (by omega)
    · rw [if_pos (by rw [hh.1]; exact hfit')]
      apply Safe_at_bread_bind _ _ _ _ hh; intro d hd
      apply Safe_at_packetCopy_bind _ _ _ _ (by rw [hd, hh.1]; omega)
      rw [Safe_at_modH]
      exact ⟨by simp [hh.1], hh.2.1, hfit'⟩

theorem at_rxCb (h : Handle) (hh : HInv cap h) (he : h.expected.toNat ≤ cap) :
    (rxCallback h).Safe memBad (CbLen cap) (HInv cap) := by
  unfold rxCallback
  rw [Safe_at_getH_bind]
  apply Safe_at_ite
  · intro _
    refine (Safe_at_cb _ _).mpr ⟨⟨⟨he, ?_⟩, hh⟩, fun _ hi => hi⟩
    rw [List.length_take, hh.1]; omega
  · intro _; exact (Safe_at_pure _ _).mpr hh

theorem HInv.resetState {h : Handle} (hi : HInv cap h) : HInv cap (resetState h) := ⟨hi.1, hi.2.1, Nat.zero_le _⟩

@[safe] theorem s_resetState : SafeM cap (modH resetState) := SafeI_modH _ fun _ => HInv.resetState

@[safe] theorem s_setActiveModem (opmod modulation : Nat) : SafeM cap (modH (setActiveModem opmod modulation)) := by
  apply SafeI_modH; intro h hi
  have hi' : ∀ (c : Prop) [Decidable c] (x : Handle), HInv cap x → HInv cap (if c then resetState x else x) := by
    intro c _ x hx; split
    · exact hx.resetState
    · exact hx
  have hset : ∀ x : Handle, HInv cap x → HInv cap { x with activeModem := modulation, opmod := opmod } :=
    fun x hx => ⟨hx.1, hx.2.1, hx.2.2⟩
  unfold setActiveModem
  exact hset _ (hi' _ _ (hi' _ _ hi))

@[safe] theorem s_fskIrq (fuel : Nat) : SafeM cap (fskOokHandleInterrupt fuel) := by
  unfold fskOokHandleInterrupt
  apply SafeI_bind (SafeI_rread _); intro irq
  apply SafeI_bind (SafeI_swrite _ _); intro _
  constructor
  intro h hh
  rw [Safe_at_getH_bind]
  -- where nothing but the invariant is needed the handle is forgotten again
  have plain : ∀ {x : DM Unit}, SafeM cap x → (x h).Safe memBad (CbLen cap) (HInv cap) := fun hx => hx.s h hh
  -- PayloadReady, PacketSent, and in transmit mode FifoEmpty or a refill of the FIFO
  refine Safe_at_ite h (fun _ => plain ?_) fun _ => Safe_at_ite h (fun _ => plain (by safe_walk)) fun _ =>
    Safe_at_ite h (fun _ => Safe_at_ite h (fun _ => plain (by safe_walk)) fun _ =>
      Safe_at_ite h (fun _ => ?_) fun _ => (Safe_at_pure _ _).mpr hh) fun _ => plain (by safe_walk)
  · -- PayloadReady: the callback relies on what a successful read leaves behind
    apply SafeI_ite
    · intro _; exact SafeI_bind (SafeI_swrite _ _) (fun _ => s_resetState)
    · intro _
      refine SafeI_attempt_bind_post
        (fun r h' => r = .ok () → h'.expected.toNat ≤ h'.packet.length ∨ h'.expected = h'.received)
        (s_batch _ _) (batch_post _ _) ?_
      intro r h' hi' hq
      cases r with
      | ok u =>
        refine Safe_at_bind_of h' (at_rxCb h' hi' ?_) (fun _ h2 hi2 => s_resetState.s h2 hi2)
        rcases hq rfl with h1 | h1
        · rw [← hi'.1]; exact h1
        · rw [h1]; exact hi'.2.2
      | error c => exact (SafeI_bind (SafeI_swrite _ _) (fun _ => s_resetState)).s h' hi'
  · -- the refill: the bytes sent so far plus the next piece stay within the frame in the buffer
    dsimp only
    refine Safe_at_ite h (fun _ => (Safe_at_pure _ _).mpr hh) fun _ =>
      Safe_at_ite h (fun _ => (Safe_at_pure _ _).mpr hh) fun hle => ?_
    rw [if_pos (by omega)]
    apply Safe_at_bwrite_bind _ _ _ _ hh
    rw [Safe_at_modH]
    generalize (if (h.expected.toNat : Int) - (h.received.toNat : Int) > ((Gen.HALF_MAX_FIFO_THRESHOLD - 1 : Nat) : Int) then
      u8 (Gen.HALF_MAX_FIFO_THRESHOLD - 1) else UInt8.ofNat (((h.expected.toNat : Int) - (h.received.toNat : Int)) % 256).toNat) = t at hle ⊢
    have ht : t.toUInt16.toNat = t.toNat := by simp
    exact hh.advance _ hh.1 _ (by rw [← hh.1]; omega)

@[safe] theorem s_loraRead : SafeM cap loraRxReadPayload := by
  unfold loraRxReadPayload
  apply SafeI_bind (safe_checkModulation _); intro _
  apply SafeI_getH_bind; intro h hh
  apply SafeI_bind (by safe_walk); intro len
  apply SafeI_ite
  · intro _; exact SafeI_fail _
  · intro hfit
    have hfit' : len.toNat ≤ cap := by rw [← hh.1]; omega
    apply SafeI_bind (by safe_walk); intro _
    apply SafeI_bind (SafeI_rread _); intro cur
    apply SafeI_bind (SafeI_swrite _ _); intro _
    apply SafeI_getH_bind; intro h2 hh2
    rw [if_pos (by rw [hh2.1]; exact hfit')]
    apply SafeI_bread_bind; intro d hd
    exact s_packetCopy _ _ (by rw [hd]; omega)

theorem s_loraGuard (e : UInt16) : SafeM cap (loraReadGuard e) := by
  unfold loraReadGuard; safe_walk

theorem getElem?_some_of_lt {α : Type} (l : List α) (i : Nat) (h : i < l.length) : ∃ x, l[i]? = some x :=
  ⟨l[i], by simp [h]⟩

@[safe] theorem s_loraIrq : SafeM cap loraHandleInterrupt := by
  unfold loraHandleInterrupt
  apply SafeI_bind (SafeI_rread _); intro v
  apply SafeI_bind (SafeI_swrite _ _); intro _
  apply SafeI_getH_bind; intro h hh
  -- CadDone, CRC error, RxDone, TxDone, hop; only RxDone and the hop need more than the invariant
  refine SafeI_ite (fun _ => by safe_walk) fun _ => SafeI_ite (fun _ => by safe_walk) fun _ =>
    SafeI_ite (fun _ => ?_) fun _ => SafeI_ite (fun _ => by safe_walk) fun _ =>
    SafeI_ite (fun _ => ?_) fun _ => SafeI_pure _
  · -- RxDone: the callback relies on the length a successful read recorded
    refine SafeI_bind_post (fun r h' => r = .ok () → h'.expected.toNat ≤ h'.packet.length)
      (s_loraGuard _) (loraGuard_post _) ?_
    intro u h' hi' hq
    refine Safe_at_bind_of h' (at_rxCb h' hi' (by rw [← hi'.1]; exact hq rfl)) (fun _ h2 hi2 => ?_)
    exact (by safe_walk : SafeM cap _).s h2 hi2
  · -- frequency hopping: the index is clamped into the registered list
    cases hf : h.freqs with
    | none => dsimp only; exact SafeI_pure _
    | some list =>
      dsimp only
      obtain ⟨h1, h2⟩ := hh.2.1 list hf
      have hidx : (if h.curFreq ≥ h.freqLen then (0 : UInt8) else h.curFreq).toNat < list.length := by
        split
        · simp; omega
        · rename_i hc
          have hc' : ¬h.freqLen ≤ h.curFreq := hc
          rw [UInt8.le_iff_toNat_le] at hc'
          omega
      obtain ⟨x, hx⟩ := getElem?_some_of_lt list _ hidx
      apply SafeI_bind (by safe_walk); intro _
      rw [hx]
      dsimp only
      safe_walk

theorem s_withRemaining (dl : UInt16) (hdl : dl.toNat ≤ cap) : SafeM cap (fskOokTxWithRemaining dl) := by
  unfold fskOokTxWithRemaining
  dsimp only
  apply SafeI_bind (SafeI_modH _ (fun h0 hi => ⟨hi.1, hi.2.1, by
    show (UInt16.ofNat (if dl.toNat > Gen.FIFO_SIZE_FSK then Gen.FIFO_SIZE_FSK else dl.toNat)).toNat ≤ cap
    have := u16_ofNat_toNat_le (if dl.toNat > Gen.FIFO_SIZE_FSK then Gen.FIFO_SIZE_FSK else dl.toNat)
    exact Nat.le_trans this (by split <;> omega)⟩)); intro _
  apply SafeI_getH_bind; intro h hh
  have : (if dl.toNat > Gen.FIFO_SIZE_FSK then Gen.FIFO_SIZE_FSK else dl.toNat) ≤ h.packet.length := by
    rw [hh.1]; split <;> omega
  rw [if_pos this]
  exact SafeI_bwrite _ _

@[safe] theorem s_fskTx (data : List UInt8) : SafeM cap (fskOokTxSetForTransmission data) := by
  unfold fskOokTxSetForTransmission
  apply SafeI_bind safe_checkFskOok; intro _
  apply SafeI_getH_bind; intro h hh
  dsimp only
  -- past the three refusals the frame fits the buffer
  refine SafeI_ite (fun _ => SafeI_fail _) fun _ => SafeI_ite (fun _ => SafeI_fail _) fun _ =>
    SafeI_ite (fun _ => SafeI_fail _) fun hfit => ?_
  rw [hh.1] at hfit
  have h0 := u16_ofNat_toNat_le data.length
  have h1 := u16_ofNat_toNat_le (data.length + 1)
  apply SafeI_ite
  · intro hv
    rw [if_pos hv] at hfit
    exact SafeI_bind (s_packetStore 0 _ (by omega)) fun _ => SafeI_bind (s_packetCopy 1 _ (by omega)) fun _ =>
      s_withRemaining _ (by omega)
  · intro hv
    rw [if_neg hv] at hfit
    exact SafeI_bind (s_packetCopy 0 _ (by omega)) fun _ => s_withRemaining _ (by omega)

@[safe] theorem s_fskTxAddr (data : List UInt8) (a : UInt8) : SafeM cap (fskOokTxSetForTransmissionWithAddress data a) := by
  unfold fskOokTxSetForTransmissionWithAddress
  apply SafeI_bind safe_checkFskOok; intro _
  apply SafeI_getH_bind; intro h hh
  dsimp only
  refine SafeI_ite (fun _ => SafeI_fail _) fun _ => SafeI_ite (fun _ => SafeI_fail _) fun _ =>
    SafeI_ite (fun _ => SafeI_fail _) fun hfit => ?_
  rw [hh.1] at hfit
  have h1 := u16_ofNat_toNat_le (data.length + 1)
  have h2 := u16_ofNat_toNat_le (data.length + 2)
  apply SafeI_ite
  · intro hv
    rw [if_pos hv] at hfit
    exact SafeI_bind (s_packetStore 0 _ (by omega)) fun _ => SafeI_bind (s_packetStore 1 _ (by omega)) fun _ =>
      SafeI_bind (s_packetCopy 2 _ (by omega)) fun _ => s_withRemaining _ (by omega)
  · intro hv
    rw [if_neg hv] at hfit
    exact SafeI_bind (s_packetStore 0 _ (by omega)) fun _ => SafeI_bind (s_packetCopy 1 _ (by omega)) fun _ =>
      s_withRemaining _ (by omega)

@[safe] theorem s_irq (fuel : Nat) : SafeM cap (handleInterrupt fuel) := by unfold handleInterrupt; safe_walk

@[safe] theorem s_calibrateLoop (fuel : Nat) : SafeM cap (calibrateLoop fuel) := by
  induction fuel with
  | zero => unfold calibrateLoop; safe_walk
  | succ n ih => unfold calibrateLoop; safe_walk

/-- the caller's side of `sx127x_lora_set_frequency_hopping`: the array has at least
    `frequencies_length` entries (what the C prototype cannot express) -/
def Api.ListsFit : Api → Prop
  | .loraSetFrequencyHopping _ (some l) len => len.toNat ≤ l.length
  | _ => True

theorem s_hopping (p : UInt8) (l : List UInt64) (len : UInt8) (hfit : len.toNat ≤ l.length) :
    SafeM cap (loraSetFrequencyHopping p (some l) len) := by
  unfold loraSetFrequencyHopping
  apply SafeI_bind (safe_checkModulation _); intro _
  dsimp only
  apply SafeI_ite
  · intro _; exact SafeI_fail _
  · intro hlen
    apply SafeI_bind (SafeI_swrite _ _); intro _
    apply SafeI_modH
    intro h hi
    refine ⟨hi.1, ?_, hi.2.2⟩
    intro l' hl'
    have : l' = l := by
      have : some l = some l' := hl'
      cases this; rfl
    subst this
    have : len.toNat ≠ 0 := by
      intro e
      apply hlen
      exact UInt8.toNat_inj.mp (by simpa using e)
    exact ⟨by show 1 ≤ len.toNat; omega, hfit⟩

theorem s_create : ∀ h, (Model.create cap h).Safe (α := Unit) memBad (CbLen cap) (HInv cap) := by
  intro h
  unfold Model.create
  have hz : HInv cap (zeroHandle cap) := ⟨by simp [zeroHandle], fun l e => by simp [zeroHandle] at e, Nat.zero_le _⟩
  have hf : HInv cap (freshHandle cap) := ⟨by simp [freshHandle], fun l e => by simp [freshHandle] at e, Nat.zero_le _⟩
  have : SafeM cap (do let version ← rread Gen.REGVERSION
                       if version ≠ u8 Gen.SX127x_VERSION then fail Gen.SX127X_ERR_INVALID_VERSION else setH (freshHandle cap)) := by
    apply SafeI_bind (SafeI_rread _); intro v
    apply SafeI_ite
    · intro _; exact SafeI_fail _
    · intro _; exact SafeI_setH _ hf
  -- `setH (zeroHandle cap)` first: the old handle does not matter
  exact Safe_setH_bind _ _ _ (this.s _ hz)

theorem s_api (fuel : Nat) (a : Api) (hc : a.isCreate = false) (hl : a.ListsFit) : SafeM cap (Api.prog cap fuel a) := by
  cases a
  case create => exact absurd hc (by decide)
  all_goals refine SafeI_bind ?_ fun _ => SafeI_pure _
  case loraSetFrequencyHopping p f l =>
    cases f with
    | none => unfold loraSetFrequencyHopping; safe_walk
    | some list => exact s_hopping p list l hl
  -- the other calls: a lemma of `safe` about the function; else unfold it where `api_body` has it, and traverse
  all_goals first | simp only [safe] | (dsimp only [api_body]; safe_walk) | safe_walk

end Sx
