import Sx.Lemmas.ContractAll
import Sx.Lemmas.Exec
import Sx.Lemmas.Safe
/-
  Within the SPI contract (C19) no request reaches outside the shadow arrays: the four
  shadow-layer entry points never end in `oobShadow` when the arrays have their declared size,
  and they keep that size.
-/
namespace Sx
open Sx.Model DM

/-- the shadow arrays have their declared size -/
def SzOk (w : World) : Prop := w.cache.size = 0x71

theorem busRead_val (w : World) (reg n : Nat) (v : UInt32) (w1 : World) (h : w.busRead reg n = (.ok v, w1)) :
    v.toNat < 2 ^ (8 * n) := by
  rw [(busRead_ok reg n v w1 h).1]
  have := be32_lt (w.pre.1.chip.readN reg n).1
  rwa [readN_length] at this

theorem SzOk.of_cache {w w' : World} (hs : SzOk w) (h : w'.cache = w.cache) : SzOk w' := by
  unfold SzOk; rw [h]; exact hs

theorem SzOk.store {w : World} (hs : SzOk w) (reg : Nat) (d : List UInt8) :
    SzOk { w with cache := w.cache.store reg d } :=
  (store_size ..).trans hs

theorem sread_sz {cached : Bool} {w : World} (hs : SzOk w) (reg n : Nat) (hp : ContractReq (.sread reg n)) :
    ∃ r w', Shadow.sread cached w reg n = .ok r w' ∧ SzOk w' ∧ (∀ v, r = .ok v → v.toNat < 2 ^ (8 * n)) := by
  have hval := busRead_val w reg n
  refine Shadow.sread_cases (M := fun s => ∃ r w', s = .ok r w' ∧ SzOk w' ∧ ∀ v, r = .ok v → v.toNat < 2 ^ (8 * n))
    (.inl ⟨hp.1, by rw [hs]; exact hp.2.2.2⟩) (fun _ _ _ => ⟨_, _, rfl, hs, ?_⟩)
    ⟨_, _, rfl, hs.of_cache (busRead_cache ..), fun v hv => hval v _ (Prod.ext hv rfl)⟩
    fun _ _ _ v w1 hb => ⟨_, _, rfl, ?_, ?_⟩
  · intro v hv
    cases hv
    have := be32_lt (w.cache.vals.rds reg n)
    rwa [Mem.length_rds] at this
  · have hc := busRead_cache w reg n
    rw [hb] at hc
    exact (hs.of_cache hc).store ..
  · intro v' hv'
    cases hv'
    exact hval v w1 hb

theorem rread_sz {cached : Bool} {w : World} (hs : SzOk w) (reg : Nat) (hp : ContractReq (.rread reg)) :
    ∃ r w', Shadow.rread cached w reg = .ok r w' ∧ SzOk w' := by
  have hreg : reg ≤ 0x70 := hp
  refine Shadow.rread_cases (M := fun s => ∃ r w', s = .ok r w' ∧ SzOk w') (.inl (by rw [hs]; omega)) (fun _ _ _ => ⟨_, _, rfl, hs⟩)
    ⟨_, _, rfl, hs.of_cache (busRead_cache ..)⟩ fun _ _ _ v w1 hb => ⟨_, _, rfl, ?_⟩
  have hc := busRead_cache w reg 1
  rw [hb] at hc
  exact (hs.of_cache hc).store ..

theorem swrite_sz {cached : Bool} {w : World} (hs : SzOk w) (reg : Nat) (d : List UInt8) (hp : ContractReq (.swrite reg d)) :
    ∃ r w', Shadow.swrite cached w reg d = .ok r w' ∧ SzOk w' := by
  refine Shadow.swrite_cases (M := fun s => ∃ r w', s = .ok r w' ∧ SzOk w') (.inl (by rw [hs]; exact hp.2.2.1))
    (fun _ => ⟨_, _, rfl, hs.of_cache (busWrite_cache ..)⟩) fun _ _ w1 hb => ⟨_, _, rfl, ?_⟩
  have hc := busWrite_cache w reg d
  rw [hb] at hc
  refine (store_size ..).trans ?_
  split
  · rw [dropPage_size]; exact hs.of_cache hc
  · exact hs.of_cache hc

theorem bwrite_sz {cached : Bool} {w : World} (hs : SzOk w) (reg : Nat) (d : List UInt8) (hp : ContractReq (.bwrite reg d)) :
    ∃ r w', Shadow.bwrite cached w reg d = .ok r w' ∧ SzOk w' := by
  refine Shadow.bwrite_cases (M := fun s => ∃ r w', s = .ok r w' ∧ SzOk w') (.inl fun h0 => by rw [hs]; exact (hp.2.resolve_left h0).2)
    (fun _ => ⟨_, _, rfl, hs.of_cache (busWriteBuf_cache ..)⟩) fun _ _ _ w1 hb => ⟨_, _, rfl, ?_⟩
  have hc := busWriteBuf_cache w reg d
  rw [hb] at hc
  exact (hs.of_cache hc).store ..

theorem busReadBuf_len (w : World) (reg n : Nat) (d : List UInt8) (h : (w.busReadBuf reg n).1 = .ok d) : d.length = n := by
  rw [w.busReadBuf_eq] at h
  rcases w.transfer_cases (fun c => c.readN reg n) (.rb reg n) with ⟨c, e⟩ | e <;> rw [e] at h <;> cases h
  exact readN_length ..

theorem step_sz {cached : Bool} {w : World} (hs : SzOk w) (q : Req) (hp : ContractReq q) :
    ∃ r w', Shadow.step cached w q = .ok r w' ∧ SzOk w' ∧ q.Sized r := by
  cases q with
  | sread reg n => exact sread_sz hs reg n hp
  | rread reg => obtain ⟨r, w', e, h⟩ := rread_sz hs reg hp; exact ⟨r, w', e, h, trivial⟩
  | swrite reg d => obtain ⟨r, w', e, h⟩ := swrite_sz hs reg d hp; exact ⟨r, w', e, h, trivial⟩
  | bwrite reg d => obtain ⟨r, w', e, h⟩ := bwrite_sz hs reg d hp; exact ⟨r, w', e, h, trivial⟩
  | bread reg n => exact ⟨_, _, rfl, hs.of_cache (busReadBuf_cache ..), busReadBuf_len w reg n⟩
  | rawbread reg n => exact ⟨_, _, rfl, hs.of_cache (busReadBuf_cache ..), busReadBuf_len w reg n⟩

end Sx
