import Sx.Lemmas.TxCovers
import Sx.Lemmas.GhostCbs
/-
  The transmit environment as a `CbsEnv` (see Lemmas/GhostCbs.lean).
-/
namespace Sx
open Sx.Model

theorem TxG.shift_cbs (g : TxG) (k : Nat) : (g.shift k).cbs = g.cbs := by unfold TxG.shift; rfl
theorem TxG.put_cbs (g : TxG) (d : List UInt8) : (g.put d).cbs = g.cbs := by
  unfold TxG.put
  split <;> rfl

theorem txR_cbs {g : TxG} {q : Req} {a : Ans} {g' : TxG} (h : txE.R g q a g') (hp : ¬g'.poison = true) : g'.cbs = g.cbs := by
  have h' : txR g q a g' := h
  unfold txR at h'
  split at h'
  · rw [h']
  · unfold txRLive at h'
    split at h'
    · split at h'
      · split at h'
        · obtain ⟨k, e, _⟩ := h'; rw [e]; exact TxG.shift_cbs g k
        · obtain ⟨k, e⟩ := h'; rw [e]; exact TxG.shift_cbs _ _
      · exact absurd h' hp
    · split at h'
      · obtain ⟨k, e⟩ := h'; rw [e]; exact TxG.shift_cbs _ _
      · exact absurd h' hp
    · split at h'
      · split at h'
        · obtain ⟨k, e⟩ := h'; rw [e, TxG.put_cbs]; exact TxG.shift_cbs _ _
        · obtain ⟨k, e⟩ := h'; rw [e]; exact TxG.shift_cbs _ _
      · exact absurd h' hp
    · exact absurd h' hp

def txK : CbsEnv txE :=
  .session TxG.cbs (·.poison = true) (fun _ _ _ _ h hp => txR_cbs h hp)
    (fun g q a g' h hb => by
      have h' : txR g q a g' := h
      unfold txR at h'
      rwa [if_pos (Or.inl hb)] at h')
    (fun g e h h' g' (hc : g' = { g with cbs := g.cbs ++ [e], ended := true }) => hc ▸ ⟨rfl, id⟩)

end Sx
