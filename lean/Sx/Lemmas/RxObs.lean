import Sx.Lemmas.RxCovers
import Sx.Lemmas.GhostCbs
/-
  The receive environment as a `CbsEnv`: its answers never touch the ghost's callback list, its
  callback relation appends the event (used to state C03 on the chip model in terms of what an
  observation shows).
-/
namespace Sx
open Sx.Model

theorem RxG.take_cbs (g : RxG) (n : Nat) : (g.take n).cbs = g.cbs := by
  unfold RxG.take
  split
  · rfl
  split
  · dsimp only; split <;> rfl
  · rfl
theorem RxG.arrive_cbs (g : RxG) (k : Nat) (fin : Bool) : (g.arrive k fin).cbs = g.cbs := by
  unfold RxG.arrive
  dsimp only
  split <;> rfl

theorem rxAnswer_cbs {g g1 : RxG} {q : Req} {a : Ans} {g' : RxG} (h : rxAnswer g g1 q a g') (hp : ¬g'.poison = true) :
    g'.cbs = g1.cbs := by
  unfold rxAnswer at h
  split at h
  · split at h
    · obtain ⟨e, _⟩ := h; rw [e]
    · split at h
      · obtain ⟨e, _⟩ := h; rw [e]; exact RxG.take_cbs _ _
      · split at h
        · obtain ⟨e, _⟩ := h; rw [e]
        · split at h
          · obtain ⟨e, _⟩ := h; rw [e]
          · split at h
            · obtain ⟨e, _⟩ := h; rw [e]
            · split at h
              · rw [h]
              · exact absurd h hp
  · split at h
    · rw [h]; split <;> rfl
    · split at h
      · rw [h]
      · exact absurd h hp
  · split at h
    · obtain ⟨e, _⟩ := h; rw [e]; exact RxG.take_cbs _ _
    · exact absurd h hp
  · exact absurd h hp

theorem rxR_cbs {g : RxG} {q : Req} {a : Ans} {g' : RxG} (h : rxE.R g q a g') (hp : ¬g'.poison = true) : g'.cbs = g.cbs := by
  have h' : rxR g q a g' := h
  unfold rxR at h'
  split at h'
  · rw [h']
  · rcases h' with ⟨_, k, fin, _, ha⟩ | ⟨_, _, k, fin, _, e⟩
    · rw [rxAnswer_cbs ha hp, RxG.arrive_cbs]
    · rw [e]; exact RxG.arrive_cbs _ _ _

def rxK : CbsEnv rxE :=
  .session RxG.cbs (·.poison = true) (fun _ _ _ _ h hp => rxR_cbs h hp)
    (fun g q a g' h hb => by
      have h' : rxR g q a g' := h
      unfold rxR at h'
      rwa [if_pos (Or.inl hb)] at h')
    (fun g e h h' g' (hc : g' = { g with cbs := g.cbs ++ [e], ended := true }) => hc ▸ ⟨rfl, id⟩)

end Sx
