import Sx.Sys
import Sx.Lemmas.Exec
/-
  `Sys.step` and the callback configuration through their equations: an API step is "set up the
  world of the call (`Sys.start`), run the program, wind the call up (`Sys.finish`)"; the
  application's reaction inside a callback is the program of an API call.
-/
namespace Sx

theorem SysCfg.reaction_some {c : SysCfg} {o : Option Api} {re : Reaction} (h : c.reaction o = some re) :
    ∃ api, o = some api ∧ re.run = Api.prog c.cap c.fuel api := by
  cases o with
  | none => cases h
  | some api =>
    simp only [SysCfg.reaction] at h
    split at h <;> cases h
    exact ⟨api, rfl, rfl⟩

theorem SysCfg.reactionFor_some {c : SysCfg} {e : CbEvent} {re : Reaction} (h : c.toCfg.reactionFor e = some re) :
    ∃ api, (c.onRx = some api ∨ c.onTx = some api ∨ c.onCad = some api) ∧ re.run = Api.prog c.cap c.fuel api := by
  cases e <;> obtain ⟨api, ho, hr⟩ := SysCfg.reaction_some h
  · exact ⟨api, .inl ho, hr⟩
  · exact ⟨api, .inr (.inl ho), hr⟩
  · exact ⟨api, .inr (.inr ho), hr⟩

theorem Sys.step_env (c : SysCfg) (s : Sys) (e : Env) :
    s.step c (.env e) = ({ s with world := { s.world with chip := e.apply s.world.chip } }, .env) := rfl

def Sys.start (s : Sys) (a : Api) (sched : List (Nat × Env)) (faults : List (Nat × Code)) : World :=
  { s.world with xfer := 0, sched := sched, faults := faults, bus := [], cbs := [],
                 cache := if a.isCreate then Cache.fresh else s.world.cache }

/-- winding up a call: scheduled events the call did not reach happen right after it -/
def Sys.finish (s : Sys) : Outcome (Except Code Out × Handle) → Sys × Obs
  | .ub u w => ({ world := w, handle := s.handle }, .ub u)
  | .done (r, h) w =>
    ({ world := { w with chip := w.sched.foldl (fun ch e => if e.1 ≥ w.xfer then e.2.apply ch else ch) w.chip,
                         sched := [], faults := [] }, handle := some h }, .ret r w.cbs.reverse w.bus.reverse)

theorem Sys.step_api (c : SysCfg) (s : Sys) (a : Api) (sched : List (Nat × Env)) (faults : List (Nat × Code)) :
    s.step c (.api a sched faults) =
      if s.handle.isNone ∧ !a.isCreate then (s, .skipped)
      else s.finish (exec c.toCfg (Api.prog c.cap c.fuel a (s.handle.getD {})) (s.start a sched faults)) := by
  unfold Sys.step
  dsimp only [Sys.start]
  split
  · rfl
  · generalize exec _ _ _ = out
    cases out <;> rfl

theorem Sys.run_cons (c : SysCfg) (s : Sys) (op : Op) (ops : List Op) :
    Sys.run c s (op :: ops) =
      ((Sys.run c (s.step c op).1 ops).1, (s.step c op).2 :: (Sys.run c (s.step c op).1 ops).2) := rfl

theorem Sys.run_append (c : SysCfg) (s : Sys) (a b : List Op) :
    Sys.run c s (a ++ b) = ((Sys.run c (Sys.run c s a).1 b).1, (Sys.run c s a).2 ++ (Sys.run c (Sys.run c s a).1 b).2) := by
  induction a generalizing s with
  | nil => simp [Sys.run]
  | cons x xs ih =>
    simp only [List.cons_append, Sys.run]
    rw [ih]

theorem Sys.run_preserves {J : Sys → Prop} (c : SysCfg) (ops : List Op)
    (hstep : ∀ op ∈ ops, ∀ s, J s → J (s.step c op).1) (s : Sys) (j : J s) : J (Sys.run c s ops).1 := by
  induction ops generalizing s with
  | nil => exact j
  | cons op rest ih =>
    rw [Sys.run_cons]
    exact ih (fun o ho => hstep o (List.mem_cons_of_mem _ ho)) _ (hstep op (List.mem_cons_self ..) s j)

def Obs.cbEvents : Obs → List CbEvent
  | .ret _ cbs _ => cbs.map (·.ev)
  | _ => []

end Sx
