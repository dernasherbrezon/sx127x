import Sx.Basic
namespace Sx.Mem

@[simp] theorem length_wr (m : Mem) (a : Nat) (v : UInt8) : (m.wr a v).length = m.length := by
  simp [wr]

theorem rd_wr (m : Mem) (a b : Nat) (v : UInt8) :
    (m.wr a v).rd b = if a = b ∧ a < m.length then v else m.rd b := by
  unfold rd wr
  by_cases h : a = b
  · subst h
    by_cases hl : a < m.length
    · simp [List.getD, hl]
    · simp [List.getD, hl]
  · simp [List.getD, h]

theorem rd_wr_same (m : Mem) (a : Nat) (v : UInt8) (h : a < m.length) : (m.wr a v).rd a = v := by
  simp [rd_wr, h]

theorem rd_wr_ne (m : Mem) (a b : Nat) (v : UInt8) (h : a ≠ b) : (m.wr a v).rd b = m.rd b := by
  simp [rd_wr, h]

@[simp] theorem length_wrs (m : Mem) (a : Nat) (d : List UInt8) : (m.wrs a d).length = m.length := by
  induction d generalizing m a with
  | nil => simp [wrs]
  | cons v vs ih => simp [wrs, ih]

@[simp] theorem length_zeros (n : Nat) : (zeros n).length = n := by simp [zeros]

theorem rd_zeros (n a : Nat) : (zeros n).rd a = 0 := by
  unfold rd zeros
  by_cases h : a < n
  · simp [List.getD, h]
  · simp [List.getD, h]

theorem wr_rd_self (m : Mem) (a : Nat) : m.wr a (m.rd a) = m := by
  unfold wr rd
  by_cases h : a < m.length
  · apply List.ext_getElem (by simp)
    intro i h1 h2
    by_cases hia : a = i
    · subst hia; simp [List.getD, h]
    · simp [hia]
  · simp [List.set_eq_of_length_le (Nat.le_of_not_lt h)]

theorem lt_length_of_rd_ne_zero {m : Mem} {a : Nat} (h : m.rd a ≠ 0) : a < m.length := by
  apply Classical.byContradiction
  intro hn
  exact h (by simp [rd, List.getD, Nat.le_of_not_lt hn])

theorem length_rds (m : Mem) (a n : Nat) : (m.rds a n).length = n := by simp [rds]

end Sx.Mem

namespace Sx
open Mem

theorem wrs_eq (d : List UInt8) : ∀ (m : Mem) (a : Nat), a + d.length ≤ m.length →
    m.wrs a d = m.take a ++ d ++ m.drop (a + d.length) := by
  induction d with
  | nil => intro m a _; simp [Mem.wrs]
  | cons v vs ih =>
    intro m a hlen
    rw [List.length_cons] at hlen
    have ha : a < m.length := by omega
    rw [Mem.wrs, ih _ _ (by rw [length_wr]; omega)]
    have h1 : (m.wr a v).take (a + 1) = m.take a ++ [v] := by
      simp [Mem.wr, List.take_succ_eq_append_getElem, ha, List.take_set_of_le]
    have h2 : (m.wr a v).drop (a + 1 + vs.length) = m.drop (a + (vs.length + 1)) := by
      simp [Mem.wr, List.drop_set_of_lt, Nat.add_assoc, Nat.add_comm 1]
    rw [h1, h2]
    simp

theorem wrs_take (m : Mem) (d : List UInt8) (h : d.length ≤ m.length) : (m.wrs 0 d).take d.length = d := by
  rw [wrs_eq d m 0 (by omega)]
  simp

theorem take_wrs (m : Mem) (a : Nat) (d : List UInt8) (h : a + d.length ≤ m.length) :
    (m.wrs a d).take (a + d.length) = m.take a ++ d := by
  rw [wrs_eq d m a h, List.take_append]
  have hl : (List.take a m ++ d).length = a + d.length := by simp [List.length_take]; omega
  rw [hl, List.take_of_length_le (by omega), Nat.sub_self]; simp

theorem wr_wr_same (m : Mem) (a : Nat) (v w : UInt8) : (m.wr a v).wr a w = m.wr a w := by
  simp [Mem.wr, List.set_set]

theorem rds_eq_drop_take (m : Mem) (a n : Nat) (h : a + n ≤ m.length) : m.rds a n = (m.drop a).take n := by
  apply List.ext_getElem
  · simp [Mem.rds]; omega
  · intro i h1 h2
    have hi : i < n := by simpa [Mem.rds] using h1
    simp only [Mem.rds, List.getElem_map, List.getElem_range, Mem.rd, List.getElem_take, List.getElem_drop]
    have : a + i < m.length := by omega
    simp [List.getD, this]

theorem rds_eq_take (m : Mem) (n : Nat) (h : n ≤ m.length) : m.rds 0 n = m.take n := by
  rw [rds_eq_drop_take m 0 n (by omega)]; rfl

theorem rds_wrs_zero (m : Mem) (d : List UInt8) (h : d.length ≤ m.length) : (m.wrs 0 d).rds 0 d.length = d := by
  rw [rds_eq_take _ _ (by simp; exact h)]
  exact wrs_take m d h

end Sx
