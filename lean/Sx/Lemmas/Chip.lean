import Sx.Chip
import Sx.Lemmas.Mem
import Sx.Lemmas.Bits
/-
  Frame lemmas about the chip model: which cells an access or an environment event can change.
-/
namespace Sx
open Mem

namespace Chip

structure WF (c : Chip) : Prop where
  hs : c.shared.length = 128
  hl : c.lora.length = 128
  hf : c.fsk.length = 128
  hb : c.buf.length = 256

theorem wf_init : Chip.init.WF := by
  constructor <;> simp [Chip.init]

structure Stable (c c' : Chip) : Prop where
  wf : c'.WF
  page : c'.isLora = c.isLora
  cells : ∀ a, Vol a = false → c'.cell a = c.cell a

theorem Stable.refl {c : Chip} (h : c.WF) : Stable c c := ⟨h, rfl, fun _ _ => rfl⟩

theorem Stable.trans {a b c : Chip} (h1 : Stable a b) (h2 : Stable b c) : Stable a c :=
  ⟨h2.wf, h2.page.trans h1.page, fun x hx => (h2.cells x hx).trans (h1.cells x hx)⟩

theorem isLora_of_shared {c c' : Chip} (h : c'.shared.rd 1 = c.shared.rd 1) : c'.isLora = c.isLora := by
  simp [isLora, h]

theorem rd_wr_vol (m : Mem) (a : Nat) (v : UInt8) (hv : Vol a = true) :
    ∀ x, Vol x = false → (m.wr a v).rd x = m.rd x := by
  intro x hx
  have : a ≠ x := by intro e; subst e; simp [hv] at hx
  exact rd_wr_ne _ _ _ _ this

theorem stable_intro {c c' : Chip}
    (hs : c'.shared.length = 128 ∧ ∀ a, Vol a = false → c'.shared.rd a = c.shared.rd a)
    (hp : c'.isLora = c.isLora)
    (hl : c'.lora.length = 128 ∧ ∀ a, Vol a = false → c'.lora.rd a = c.lora.rd a)
    (hf : c'.fsk.length = 128 ∧ ∀ a, Vol a = false → c'.fsk.rd a = c.fsk.rd a)
    (hb : c'.buf.length = 256) : Stable c c' := by
  refine ⟨⟨hs.1, hl.1, hf.1, hb⟩, hp, ?_⟩
  intro x hx
  simp only [cell, hp]
  split
  · split
    · exact hl.2 x hx
    · exact hf.2 x hx
  · exact hs.2 x hx

theorem WF.lora_wr {c : Chip} (h : c.WF) (a : Nat) (v : UInt8) : ({ c with lora := c.lora.wr a v } : Chip).WF :=
  ⟨h.hs, (length_wr ..).trans h.hl, h.hf, h.hb⟩
theorem WF.fsk_wr {c : Chip} (h : c.WF) (a : Nat) (v : UInt8) : ({ c with fsk := c.fsk.wr a v } : Chip).WF :=
  ⟨h.hs, h.hl, (length_wr ..).trans h.hf, h.hb⟩
theorem WF.shared_wr {c : Chip} (h : c.WF) (a : Nat) (v : UInt8) : ({ c with shared := c.shared.wr a v } : Chip).WF :=
  ⟨(length_wr ..).trans h.hs, h.hl, h.hf, h.hb⟩

theorem stable_lora_wr {c c' : Chip} (h : c.WF) {a : Nat} (hv : Vol a = true) {v : UInt8}
    (hs : c'.shared = c.shared) (hl : c'.lora = c.lora.wr a v) (hf : c'.fsk = c.fsk) (hb : c'.buf.length = 256) :
    Stable c c' :=
  stable_intro ⟨hs ▸ h.hs, fun _ _ => by rw [hs]⟩ (isLora_of_shared (by rw [hs]))
    ⟨by rw [hl, length_wr, h.hl], fun x hx => by rw [hl]; exact rd_wr_vol _ _ _ hv x hx⟩
    ⟨hf ▸ h.hf, fun _ _ => by rw [hf]⟩ hb

theorem stable_fsk_wr {c c' : Chip} (h : c.WF) {a : Nat} (hv : Vol a = true) {v : UInt8}
    (hs : c'.shared = c.shared) (hl : c'.lora = c.lora) (hf : c'.fsk = c.fsk.wr a v) (hb : c'.buf.length = 256) :
    Stable c c' :=
  stable_intro ⟨hs ▸ h.hs, fun _ _ => by rw [hs]⟩ (isLora_of_shared (by rw [hs]))
    ⟨hl ▸ h.hl, fun _ _ => by rw [hl]⟩
    ⟨by rw [hf, length_wr, h.hf], fun x hx => by rw [hf]; exact rd_wr_vol _ _ _ hv x hx⟩ hb

/-- buffer content, FIFO content and the overflow / underflow counters are no register cells -/
theorem stable_regs {c c' : Chip} (h : c.WF) (hs : c'.shared = c.shared) (hl : c'.lora = c.lora) (hf : c'.fsk = c.fsk)
    (hb : c'.buf.length = 256) : Stable c c' :=
  stable_intro ⟨hs ▸ h.hs, fun _ _ => by rw [hs]⟩ (isLora_of_shared (by rw [hs])) ⟨hl ▸ h.hl, fun _ _ => by rw [hl]⟩
    ⟨hf ▸ h.hf, fun _ _ => by rw [hf]⟩ hb

theorem stable_fifoFlush {c : Chip} (h : c.WF) : Stable c c.fifoFlush :=
  stable_fsk_wr h (a := 0x3f) (by decide) rfl rfl rfl h.hb

theorem read_stable {c : Chip} (h : c.WF) (a : Nat) : Stable c (c.read a).2 := by
  unfold read
  dsimp only
  split
  · split
    · exact stable_lora_wr h (a := 0x0d) (by decide) rfl rfl rfl h.hb
    · split
      · exact stable_regs h rfl rfl rfl h.hb
      · dsimp only
        split
        · exact stable_fsk_wr h (a := 0x3f) (by decide) rfl rfl rfl h.hb
        · exact stable_regs h rfl rfl rfl h.hb
  · exact Stable.refl h

theorem read_nonzero {c : Chip} (a : Nat) (h0 : a % 128 ≠ 0) : c.read a = (c.peek (a % 128), c) := by
  simp [read, h0]

/-- the effect of a plain register write: the cell holds the value; other cells keep theirs,
    except that a write to RegOpMode (address 1) may re-map the paged addresses -/
structure Upd (c c' : Chip) (a : Nat) (v : UInt8) : Prop where
  wf : c'.WF
  page : a ≠ 1 → c'.isLora = c.isLora
  self : c'.cell a = v
  others : ∀ b, b ≠ a → (a ≠ 1 ∨ inPage b = false) → c'.cell b = c.cell b

theorem isLora_setCell (c : Chip) (a : Nat) (v : UInt8) (h1 : a ≠ 1) : (c.setCell a v).isLora = c.isLora := by
  unfold setCell
  split
  · split <;> rfl
  · exact isLora_of_shared (rd_wr_ne _ a 1 v h1)

theorem wf_setCell (c : Chip) (wf : c.WF) (a : Nat) (v : UInt8) : (c.setCell a v).WF := by
  unfold setCell
  split
  · split
    · exact wf.lora_wr ..
    · exact wf.fsk_wr ..
  · exact wf.shared_wr ..

theorem cell_setCell_same (c : Chip) (wf : c.WF) (a : Nat) (v : UInt8) (ha : a < 128) : (c.setCell a v).cell a = v := by
  by_cases hp : inPage a = true
  · have hl := isLora_setCell c a v (fun e => by rw [e] at hp; cases hp)
    unfold cell
    rw [hl]
    unfold setCell
    by_cases hlo : c.isLora = true
    · simp only [hp, hlo, ↓reduceIte]; exact rd_wr_same _ _ _ (by rw [wf.hl]; exact ha)
    · simp only [hp, hlo, Bool.false_eq_true, ↓reduceIte]; exact rd_wr_same _ _ _ (by rw [wf.hf]; exact ha)
  · unfold cell setCell
    simp only [hp, Bool.false_eq_true, ↓reduceIte]
    exact rd_wr_same _ _ _ (by rw [wf.hs]; exact ha)

theorem cell_setCell_ne (c : Chip) (a b : Nat) (v : UInt8) (hab : a ≠ b) (h : a ≠ 1 ∨ inPage b = false) :
    (c.setCell a v).cell b = c.cell b := by
  by_cases hpb : inPage b = true
  · have hl := isLora_setCell c a v (h.resolve_right (by rw [hpb]; exact Bool.noConfusion))
    unfold cell
    rw [hl]
    unfold setCell
    by_cases hp : inPage a = true
    · by_cases hlo : c.isLora = true
      · simp only [hp, hlo, ↓reduceIte, rd_wr_ne _ a b v hab]
      · simp only [hp, hlo, Bool.false_eq_true, ↓reduceIte, rd_wr_ne _ a b v hab]
    · simp only [hp, hpb, Bool.false_eq_true, ↓reduceIte]
  · unfold cell setCell
    simp only [hpb, Bool.false_eq_true, ↓reduceIte]
    split
    · split <;> rfl
    · exact rd_wr_ne _ a b v hab

theorem setCell_upd {c : Chip} (h : c.WF) (a : Nat) (v : UInt8) (ha : a < 128) : Upd c (c.setCell a v) a v :=
  ⟨wf_setCell c h a v, isLora_setCell c a v, cell_setCell_same c h a v ha,
    fun b hb hor => cell_setCell_ne c a b v (Ne.symm hb) hor⟩

theorem write_zero_stable {c : Chip} (h : c.WF) (a : Nat) (v : UInt8) (h0 : a % 128 = 0) : Stable c (c.write a v) := by
  unfold write
  dsimp only
  rw [if_pos h0]
  split
  · exact stable_lora_wr h (a := 0x0d) (by decide) rfl rfl rfl ((length_wr ..).trans h.hb)
  · split
    · exact stable_fsk_wr h (a := 0x3f) (by decide) rfl rfl rfl h.hb
    · exact stable_regs h rfl rfl rfl h.hb

/-- a register write either touches volatile cells only (FIFO, write-1-to-clear flag
    registers) or is a plain store -/
theorem write_effect {c : Chip} (h : c.WF) (a : Nat) (v : UInt8) :
    (Vol (a % 128) = true ∧ a % 128 ≠ 1 ∧ Stable c (c.write a v)) ∨ Upd c (c.write a v) (a % 128) v := by
  have ha : a % 128 < 128 := Nat.mod_lt _ (by decide)
  by_cases h0 : a % 128 = 0
  · exact .inl ⟨by rw [h0]; decide, by omega, write_zero_stable h a v h0⟩
  unfold write
  dsimp only
  rw [if_neg h0]
  split
  · rename_i h12
    exact .inl ⟨by rw [h12.2]; decide, by omega, stable_lora_wr h (a := 0x12) (by decide) rfl rfl rfl h.hb⟩
  · split
    · rename_i h3e
      exact .inl ⟨by rw [h3e.2]; decide, by omega, stable_fsk_wr h (a := 0x3e) (by decide) rfl rfl rfl h.hb⟩
    · split
      · rename_i h3f
        refine .inl ⟨by rw [h3f.2]; decide, by omega, ?_⟩
        -- FifoOverrun (bit 4) flushes the FIFO, bit 0 clears LowBat: writes to 0x3f only
        have step1 : Stable c (if v &&& 0x10 ≠ 0 then fifoFlush { c with fsk := c.fsk.wr 0x3f (c.fsk.rd 0x3f &&& 0xef) } else c) := by
          split
          · exact Stable.trans (b := { c with fsk := c.fsk.wr 0x3f (c.fsk.rd 0x3f &&& 0xef) })
              (stable_fsk_wr h (a := 0x3f) (by decide) rfl rfl rfl h.hb) (stable_fifoFlush (h.fsk_wr ..))
          · exact Stable.refl h
        split
        · exact step1.trans (stable_fsk_wr step1.wf (a := 0x3f) (by decide) rfl rfl rfl step1.wf.hb)
        · exact step1
      · exact .inr (setCell_upd h _ v ha)

end Chip
open Chip

theorem vol_of_contains_lora {a : Nat} (h : volatileLora.contains a = true) : Vol a = true := by
  unfold Vol; rw [h]; rfl
theorem vol_of_contains_fsk {a : Nat} (h : volatileFsk.contains a = true) : Vol a = true := by
  unfold Vol; rw [h]; simp
theorem vol_of_contains_shared {a : Nat} (h : volatileShared.contains a = true) : Vol a = true := by
  unfold Vol; rw [h]; simp

theorem foldl_buf_length (data : List UInt8) (start : UInt8) (b : Mem) (l : List Nat) :
    (l.foldl (fun b i => b.wr ((start.toNat + i) % 256) (data.getD i 0)) b).length = b.length := by
  induction l generalizing b with
  | nil => rfl
  | cons x xs ih => rw [List.foldl, ih]; simp

theorem Env.apply_stable {c : Chip} (h : c.WF) (e : Env) (ha : e.Admissible = true) : Stable c (e.apply c) := by
  cases e with
  | rxByte b =>
    unfold Env.apply
    dsimp only
    split
    · exact stable_fsk_wr h (a := 0x3f) (by decide) rfl rfl rfl h.hb
    · exact stable_regs h rfl rfl rfl h.hb
  | rxEnd ok =>
    unfold Env.apply
    dsimp only
    split
    · exact stable_fifoFlush h
    · exact stable_fsk_wr h (a := 0x3f) (by decide) rfl rfl rfl h.hb
  | flag1 m => exact stable_fsk_wr h (a := 0x3e) (by decide) rfl rfl rfl h.hb
  | flag2 m => exact stable_fsk_wr h (a := 0x3f) (by decide) rfl rfl rfl h.hb
  | txShift =>
    unfold Env.apply
    dsimp only
    split <;> exact stable_regs h rfl rfl rfl h.hb
  | txSent => exact stable_fsk_wr h (a := 0x3f) (by decide) rfl rfl rfl h.hb
  | loraRx start crcErr data =>
    unfold Env.apply
    dsimp only
    refine stable_intro ⟨h.hs, fun _ _ => rfl⟩ rfl ⟨?_, ?_⟩ ⟨h.hf, fun _ _ => rfl⟩ ?_
    · simp [h.hl]
    · intro x hx
      rw [rd_wr_vol _ _ _ (by decide) x hx, rd_wr_vol _ _ _ (by decide) x hx, rd_wr_vol _ _ _ (by decide) x hx,
        rd_wr_vol _ _ _ (by decide) x hx]
    · rw [foldl_buf_length]; exact h.hb
  | loraFlags m => exact stable_lora_wr h (a := 0x12) (by decide) rfl rfl rfl h.hb
  | chip page a v =>
    simp only [Env.Admissible, Bool.or_eq_true, Bool.and_eq_true, decide_eq_true_eq] at ha
    unfold Env.apply
    dsimp only
    rcases ha with (⟨hp, hv⟩ | ⟨⟨hp, hv⟩, _⟩) | ⟨⟨hp, hv⟩, _⟩
    · subst hp
      simp only [↓reduceIte]
      split
      · rename_i h1
        refine stable_intro ⟨by simp [h.hs], ?_⟩ ?_ ⟨h.hl, fun _ _ => rfl⟩ ⟨h.hf, fun _ _ => rfl⟩ h.hb
        · exact rd_wr_vol _ _ _ (by decide)
        · simp only [isLora, rd_wr_same _ _ _ (show 1 < c.shared.length by rw [h.hs]; decide)]
          rw [opmode_keep_80, opmode_keep_40]
      · rename_i h1
        refine stable_intro ⟨by simp [h.hs], ?_⟩ ?_ ⟨h.hl, fun _ _ => rfl⟩ ⟨h.hf, fun _ _ => rfl⟩ h.hb
        · exact rd_wr_vol _ _ _ (vol_of_contains_shared hv)
        · simp only [isLora, rd_wr_ne _ _ _ _ h1]
    · subst hp
      simp only [show ('l' : Char) ≠ 's' by decide, ↓reduceIte]
      exact stable_lora_wr h (vol_of_contains_lora hv) rfl rfl rfl h.hb
    · subst hp
      simp only [show ('f' : Char) ≠ 's' by decide, show ('f' : Char) ≠ 'l' by decide, ↓reduceIte]
      exact stable_fsk_wr h (vol_of_contains_fsk hv) rfl rfl rfl h.hb
  | buf a v => exact stable_regs h rfl rfl rfl ((length_wr ..).trans h.hb)
  | chipRand s => simp [Env.Admissible] at ha

theorem peek_eq_cell {c : Chip} {a : Nat} (hv : Vol a = false) : c.peek a = c.cell a := by
  unfold peek
  split
  · rename_i h
    rw [h.1] at hv
    exact absurd hv (by decide)
  · rfl

theorem readN_pure (c : Chip) (reg n : Nat) (h1 : 1 ≤ reg) (hn : reg + n ≤ 128) :
    c.readN reg n = ((List.range n).map (fun i => c.peek (reg + i)), c) := by
  induction n generalizing reg with
  | zero => rfl
  | succ n ih =>
    have hne : reg ≠ 0 := by omega
    have hr : c.read reg = (c.peek reg, c) := by
      have hmod : reg % 128 = reg := Nat.mod_eq_of_lt (by omega)
      rw [read_nonzero reg (by rw [hmod]; exact hne), hmod]
    simp only [readN, hr, if_neg hne, ih (reg + 1) (by omega) (by omega), List.range_succ_eq_map, List.map_cons,
      List.map_map, Nat.add_zero]
    congr 2
    apply List.map_congr_left
    intro i _
    simp only [Function.comp, Nat.add_assoc, Nat.add_comm 1 i]

theorem readN_length (c : Chip) (reg n : Nat) : (c.readN reg n).1.length = n := by
  induction n generalizing c reg with
  | zero => rfl
  | succ n ih => simp [readN, ih]

theorem readN_vals (c : Chip) (reg n : Nat) (h1 : 1 ≤ reg) (hn : reg + n ≤ 128) (i : Nat) (hi : i < n)
    (hv : Vol (reg + i) = false) :
    (c.readN reg n).1.getD i 0 = (c.readN reg n).2.cell (reg + i) := by
  rw [readN_pure c reg n h1 hn, ← peek_eq_cell hv]
  simp [List.getD, hi]

theorem readN_one (c : Chip) (reg : Nat) (h : reg % 128 ≠ 0) : c.readN reg 1 = ([c.peek (reg % 128)], c) := by
  simp [readN, read_nonzero reg h]

theorem writeN_one (c : Chip) (reg : Nat) (v : UInt8) : c.writeN reg [v] = c.write reg v := by
  simp [writeN]

theorem writeN_two (c : Chip) (reg : Nat) (v w : UInt8) (h : reg ≠ 0) :
    c.writeN reg [v, w] = (c.write reg v).write (reg + 1) w := by
  simp [writeN, h]

theorem peek_lora (c : Chip) (a : Nat) (hl : c.isLora = true) (hp : inPage a = true) : c.peek a = c.lora.rd a := by
  simp [peek, cell, hl, hp]

theorem readN_one_lora (c : Chip) (reg : Nat) (hl : c.isLora = true) (ha : reg < 128) (hp : inPage reg = true) :
    c.readN reg 1 = ([c.lora.rd reg], c) := by
  have hm : reg % 128 = reg := Nat.mod_eq_of_lt ha
  have h0 : reg % 128 ≠ 0 := by rw [hm]; intro e; subst e; cases hp
  rw [readN_one _ _ h0, hm, peek_lora _ _ hl hp]

theorem peek_fsk (c : Chip) (a : Nat) (hl : c.isLora = false) (hp : inPage a = true) (h : a ≠ 0x3f) :
    c.peek a = c.fsk.rd a := by
  simp [peek, cell, hl, hp, h]

theorem peek_shared (c : Chip) (a : Nat) (hp : inPage a = false) : c.peek a = c.shared.rd a := by
  have : a ≠ 0x3f := by intro e; subst e; simp [inPage] at hp
  simp [peek, cell, hp, this]

theorem write_lora (c : Chip) (a : Nat) (v : UInt8) (hl : c.isLora = true) (ha : a < 128) (hp : inPage a = true)
    (h12 : a ≠ 0x12) : c.write a v = { c with lora := c.lora.wr a v } := by
  have hm : a % 128 = a := Nat.mod_eq_of_lt ha
  have h0 : a ≠ 0 := by intro e; subst e; simp [inPage] at hp
  simp [write, hm, h0, hl, h12, setCell, hp]

theorem write_lora_flags (c : Chip) (v : UInt8) (hl : c.isLora = true) :
    c.write 0x12 v = { c with lora := c.lora.wr 0x12 (c.lora.rd 0x12 &&& ~~~ v) } := by
  simp [write, hl]

theorem write_fsk (c : Chip) (a : Nat) (v : UInt8) (hl : c.isLora = false) (ha : a < 128) (hp : inPage a = true)
    (h3e : a ≠ 0x3e) (h3f : a ≠ 0x3f) : c.write a v = { c with fsk := c.fsk.wr a v } := by
  have hm : a % 128 = a := Nat.mod_eq_of_lt ha
  have h0 : a ≠ 0 := by intro e; subst e; simp [inPage] at hp
  simp [write, hm, h0, hl, h3e, h3f, setCell, hp]

theorem write_shared (c : Chip) (a : Nat) (v : UInt8) (ha : a < 128) (h0 : a ≠ 0) (hp : inPage a = false) :
    c.write a v = { c with shared := c.shared.wr a v } := by
  have hm : a % 128 = a := Nat.mod_eq_of_lt ha
  have h12 : a ≠ 0x12 := by intro e; subst e; simp [inPage] at hp
  have h3e : a ≠ 0x3e := by intro e; subst e; simp [inPage] at hp
  have h3f : a ≠ 0x3f := by intro e; subst e; simp [inPage] at hp
  simp [write, hm, h0, h12, h3e, h3f, setCell, hp]

@[simp] theorem isLora_lora_upd (c : Chip) (m : Mem) : ({ c with lora := m } : Chip).isLora = c.isLora := rfl
@[simp] theorem isLora_fsk_upd (c : Chip) (m : Mem) : ({ c with fsk := m } : Chip).isLora = c.isLora := rfl

end Sx
