import Lean.Meta.Tactic.Simp.RegisterCommand
/-
  Simp sets that hold, for each calculus over driver programs, the lemmas already proved about
  functions of the driver model.  A traversal that meets a call of such a function closes the goal
  with `simp only [<set>]`, which finds the lemma by the function's name.  `api_body` and
  `model_body` hold definitions instead.
-/

/-- `DM.All ContractReq f` -/
register_simp_attr ct

/-- `DM.FF ex f` -/
register_simp_attr ff

/-- `DM.KeepH f`, `DM.KeepC f` -/
register_simp_attr keep

/-- `DM.NoRej f` -/
register_simp_attr norej

/-- `DM.SafeI bad G I f` -/
register_simp_attr safe

/-- the defining equations of the driver functions behind the public calls: a proof about every call
    unfolds with `dsimp only [api_body]` whichever of them it is looking at -/
register_simp_attr api_body

/-- the defining equations of the small functions the driver is built from: a traversal that meets
    a call about which no lemma is tagged looks into the function -/
register_simp_attr model_body
