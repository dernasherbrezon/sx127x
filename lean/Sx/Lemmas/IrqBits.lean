import Sx.Model.Driver
import Sx.Lemmas.IrqAttr
/-
  The interrupt-flag masks the handlers test (RegIrqFlags of the LoRa page, RegIrqFlags1 and
  RegIrqFlags2 of the FSK/OOK page) as the bytes they are: `simp only [irq_bits]`.  Proved by
  evaluation and not by `rfl`, so that `simp` rewrites with them everywhere, the `Decidable`
  instances of the handlers' tests included.
-/
namespace Sx.Irq
open Sx.Model

@[irq_bits] theorem fsk_payloadReady : u8 Gen.SX127X_FSK_IRQ_PAYLOAD_READY = 0x04 := by decide
@[irq_bits] theorem fsk_packetSent : u8 Gen.SX127X_FSK_IRQ_PACKET_SENT = 0x08 := by decide
@[irq_bits] theorem fsk_fifoEmpty : u8 Gen.SX127X_FSK_IRQ_FIFO_EMPTY = 0x40 := by decide
@[irq_bits] theorem fsk_fifoLevel : u8 Gen.SX127X_FSK_IRQ_FIFO_LEVEL = 0x20 := by decide
@[irq_bits] theorem fsk_fifoFull : u8 Gen.SX127X_FSK_IRQ_FIFO_FULL = 0x80 := by decide
@[irq_bits] theorem fsk_fifoOverrun : u8 Gen.SX127X_FSK_IRQ_FIFO_OVERRUN = 0x10 := by decide
@[irq_bits] theorem fsk_crcOk : u8 Gen.SX127X_FSK_IRQ_CRC_OK = 0x02 := by decide
@[irq_bits] theorem fsk_preambleDetect : u8 Gen.SX127X_FSK_IRQ_PREAMBLE_DETECT = 0x02 := by decide
@[irq_bits] theorem fsk_syncAddressMatch : u8 Gen.SX127X_FSK_IRQ_SYNC_ADDRESS_MATCH = 0x01 := by decide

@[irq_bits] theorem lora_cadDone : u8 Gen.SX127x_IRQ_FLAG_CADDONE = 0x04 := by decide
@[irq_bits] theorem lora_cadDetected : u8 Gen.SX127x_IRQ_FLAG_CAD_DETECTED = 0x01 := by decide
@[irq_bits] theorem lora_crcError : u8 Gen.SX127x_IRQ_FLAG_PAYLOAD_CRC_ERROR = 0x20 := by decide
@[irq_bits] theorem lora_rxDone : u8 Gen.SX127x_IRQ_FLAG_RXDONE = 0x40 := by decide
@[irq_bits] theorem lora_txDone : u8 Gen.SX127x_IRQ_FLAG_TXDONE = 0x08 := by decide
@[irq_bits] theorem lora_fhssChangeChannel : u8 Gen.SX127x_IRQ_FLAG_FHSSCHANGECHANNEL = 0x02 := by decide

end Sx.Irq
