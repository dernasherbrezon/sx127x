import Sx.Lemmas.Struct
import Sx.Lemmas.Exec
/-
  The SPI contract, driver side (C19): every request any API function can issue — for every
  handle, every argument within the documented C types and the register map (`Api.Valid`), every
  answer of chip and bus — is valid for the documented SPI interface and stays inside the
  register map.
-/
namespace Sx
open Sx.Model DM

/-- register reads and writes carry 1 to 4 bytes, buffer transfers at most 2047 bytes, and every
    transfer stays inside the register map 0x00..0x70 (a burst at address 0 stays at the FIFO; a
    multi-byte read does not start at the FIFO, a buffer write not at RegOpMode) -/
def ContractReq : Req → Prop
  | .sread reg n => 1 ≤ n ∧ n ≤ 4 ∧ 1 ≤ reg ∧ reg + n ≤ 0x71
  | .rread reg => reg ≤ 0x70
  | .swrite reg d => 1 ≤ d.length ∧ d.length ≤ 4 ∧ reg + d.length ≤ 0x71 ∧ (reg ≠ 0 ∨ d.length ≤ 1)
  | .bwrite reg d => d.length ≤ 2047 ∧ (reg = 0 ∨ (2 ≤ reg ∧ reg + d.length ≤ 0x71))
  | .bread reg n => n ≤ 2047 ∧ (reg = 0 ∨ (1 ≤ reg ∧ reg + n ≤ 0x71))
  | .rawbread reg n => n ≤ 2047 ∧ (reg = 0 ∨ (1 ≤ reg ∧ reg + n ≤ 0x71))

theorem ContractReq.coh {r : Req} (h : ContractReq r) : CohReq r := by
  cases r with
  | sread reg n => exact h.2.1
  | rread reg => trivial
  | swrite reg d => exact h.2.2.2
  | bwrite reg d =>
    show reg ≠ 1
    rcases h.2 with h0 | h2
    · omega
    · omega
  | bread reg n => trivial
  | rawbread reg n => trivial

theorem ContractReq.swrite1 {reg : Nat} (v : UInt8) (h : reg ≤ 0x70) : ContractReq (.swrite reg [v]) := by
  show 1 ≤ 1 ∧ 1 ≤ 4 ∧ reg + 1 ≤ 0x71 ∧ (reg ≠ 0 ∨ 1 ≤ 1)
  omega

theorem ContractReq.swrite2 {reg : Nat} (a b : UInt8) (h : 1 ≤ reg ∧ reg ≤ 0x6f) : ContractReq (.swrite reg [a, b]) := by
  show 1 ≤ 2 ∧ 2 ≤ 4 ∧ reg + 2 ≤ 0x71 ∧ (reg ≠ 0 ∨ 2 ≤ 1)
  omega

theorem ContractReq.fifo_bwrite (d : List UInt8) (h : d.length ≤ 2047) : ContractReq (.bwrite Gen.REGFIFO d) :=
  ⟨h, Or.inl rfl⟩
theorem ContractReq.fifo_bread (n : Nat) (h : n ≤ 2047) : ContractReq (.bread Gen.REGFIFO n) := ⟨h, Or.inl rfl⟩

theorem ContractReq.fifo_bread_u8 (n : UInt8) : ContractReq (.bread Gen.REGFIFO n.toNat) :=
  .fifo_bread _ (Nat.le_trans (u8_toNat_le n) (by decide))
theorem ContractReq.fifo_bwrite_u8 (m : Mem) (a : Nat) (n : UInt8) : ContractReq (.bwrite Gen.REGFIFO (m.rds a n.toNat)) :=
  .fifo_bwrite _ (by rw [Mem.length_rds]; exact Nat.le_trans (u8_toNat_le n) (by decide))

theorem ct_appendRegister (reg : Nat) (v m : UInt8) (h : reg ≤ 0x70) : DM.All ContractReq (appendRegister reg v m) := by
  unfold appendRegister
  exact All_bind (All_rread _ h) fun _ => All_swrite _ _ (.swrite1 _ h)

/-- a leaf: the contract of a request with constant address and length holds by evaluation; the other
    shapes the driver has (one or two data bytes, a FIFO burst whose length is a `uint8_t` or is bounded by
    a guard on the path) by the lemma for that shape -/
macro "ct_leaf" : tactic => `(tactic| first
  | ((with_reducible apply DM.All_rread); show _ ≤ 0x70; decide)
  | ((with_reducible apply DM.All_sread); show 1 ≤ _ ∧ _ ≤ 4 ∧ 1 ≤ _ ∧ _ + _ ≤ 0x71; decide)
  | ((with_reducible apply DM.All_swrite)
     first
     | exact .swrite1 _ (by decide)
     | exact .swrite2 _ _ (by decide))
  | ((with_reducible apply DM.All_bwrite)
     first
     | exact .fifo_bwrite_u8 _ _ _
     | (show _ ≤ 2047 ∧ (_ = 0 ∨ (2 ≤ _ ∧ _ + _ ≤ 0x71)); decide))
  | ((with_reducible apply DM.All_bread)
     first
     | exact .fifo_bread _ (by decide)
     | exact .fifo_bread_u8 _
     | exact .fifo_bread _ (by omega))
  | ((with_reducible apply DM.All_rawbread); show _ ≤ 2047 ∧ (_ = 0 ∨ (1 ≤ _ ∧ _ + _ ≤ 0x71)); decide)
  | ((with_reducible apply ct_appendRegister); decide))

/-- the traversal: a structural step, a leaf, a case split, or a function met on the way: closed by
    the lemma tagged `ct` about it, else unfolded if it is one of the small ones (`model_body`) -/
macro "ct_walk" : tactic => `(tactic| repeat (first | dm_step | ct_leaf | split | dsimp only | simp only [ct] | dsimp only [model_body]))

@[ct] theorem ct_checkModulation (m : Nat) : DM.All ContractReq (checkModulation m) := by
  unfold checkModulation; ct_walk
@[ct] theorem ct_reloadLdro : DM.All ContractReq reloadLowDatarateOptimization := by
  unfold reloadLowDatarateOptimization; ct_walk
@[ct] theorem ct_drainLoop (fuel : Nat) : DM.All ContractReq (drainLoop fuel) := by
  induction fuel with
  | zero => unfold drainLoop; ct_walk
  | succ n ih => unfold drainLoop; ct_walk
@[ct] theorem ct_header : DM.All ContractReq readPayloadHeader := by unfold readPayloadHeader; ct_walk

@[ct] theorem ct_batch (fuel : Nat) (b : Bool) : DM.All ContractReq (fskOokReadPayloadBatch fuel b) := by
  unfold fskOokReadPayloadBatch
  apply DM.All_bind ct_header
  intro hdr
  cases hdr with
  | none => exact DM.All_pure _
  | some consumed =>
  dsimp only
  apply DM.All_bind DM.All_getH
  intro h
  refine All_if (fun _ => All_pure _) fun _ => All_if (fun _ => All_fail _) fun _ =>
    All_if (fun _ => ?_) fun _ => All_if (fun hc => ?_) fun _ => ct_drainLoop _
  · ct_walk
  · -- the rest of a packet that fits the FIFO: the guard bounds the burst
    have hrem : h.expected.toNat ≤ 64 := by
      have := hc.2
      have h64 : Gen.FIFO_SIZE_FSK = 64 := by decide
      omega
    ct_walk

theorem frfOf_length (f : UInt64) (d : List UInt8) (h : frfOf f = some d) : d.length = 3 := by
  unfold frfOf at h
  dsimp only at h
  split at h
  · cases h; rfl
  · cases h

@[ct] theorem ct_setFreq (f : UInt64) : DM.All ContractReq (setFrequency f) := by
  unfold setFrequency
  split
  · rename_i d hd
    have := frfOf_length f d hd
    apply DM.All_swrite
    show 1 ≤ d.length ∧ d.length ≤ 4 ∧ Gen.REGFRFMSB + d.length ≤ 0x71 ∧ (Gen.REGFRFMSB ≠ 0 ∨ d.length ≤ 1)
    rw [this]; decide
  · exact DM.All_ub _

@[ct] theorem ct_fskIrq (fuel : Nat) : DM.All ContractReq (fskOokHandleInterrupt fuel) := by
  unfold fskOokHandleInterrupt; ct_walk
@[ct] theorem ct_loraIrq : DM.All ContractReq loraHandleInterrupt := by unfold loraHandleInterrupt; ct_walk
@[ct] theorem ct_irq (fuel : Nat) : DM.All ContractReq (handleInterrupt fuel) := by unfold handleInterrupt; ct_walk

/-- only the last transfer depends on the payload, so it is the only one left to the caller -/
theorem all_loraTxSetForTransmission {P : Req → Prop} (hP : ∀ q, ContractReq q → P q) (d : List UInt8)
    (hd : P (.bwrite Gen.REGFIFO d)) : DM.All P (loraTxSetForTransmission d) := by
  unfold loraTxSetForTransmission
  refine All_bind (All_mono hP (ct_checkModulation _)) fun _ => ?_
  split
  · exact All_fail _
  · exact All_bind (All_swrite _ _ (hP _ (.swrite1 _ (by decide)))) fun _ =>
      All_bind (All_swrite _ _ (hP _ (.swrite1 _ (by decide)))) fun _ => All_bwrite _ _ hd

@[ct] theorem ct_fskOokTxWithRemaining (n : UInt16) : DM.All ContractReq (fskOokTxWithRemaining n) := by
  unfold fskOokTxWithRemaining
  dsimp only
  have h64 : Gen.FIFO_SIZE_FSK = 64 := by decide
  have hle : (if n.toNat > Gen.FIFO_SIZE_FSK then Gen.FIFO_SIZE_FSK else n.toNat) ≤ 64 := by
    split <;> omega
  repeat (first
    | dm_step
    | ((with_reducible apply DM.All_bwrite); exact .fifo_bwrite _ (by rw [Mem.length_rds]; omega))
    | split | dsimp only)
@[ct] theorem ct_calibrateLoop (fuel : Nat) : DM.All ContractReq (calibrateLoop fuel) := by
  induction fuel with
  | zero => unfold calibrateLoop; ct_walk
  | succ n ih => unfold calibrateLoop; ct_walk

/-- arguments within the documented C types and the register map -/
def Api.Valid : Api → Prop
  | .readRegister r => r ≤ 0x70
  | .writeRegister r _ => r ≤ 0x70
  | .loraTxSetForTransmission d => d.length ≤ 255      -- `uint8_t data_length`
  | _ => True

theorem contract_api (cap fuel : Nat) (a : Api) (hv : a.Valid) : DM.All ContractReq (Api.prog cap fuel a) := by
  cases a <;> refine All_bind ?_ fun _ => All_pure _
  case readRegister r => exact All_rread r hv
  case writeRegister r v => exact All_swrite r [v] (.swrite1 v hv)
  case loraTxSetForTransmission d => exact all_loraTxSetForTransmission (fun _ h => h) d ⟨Nat.le_trans hv (by decide), Or.inl rfl⟩
  case fskOokSetSyncword s =>
    unfold fskOokSetSyncword
    repeat (first
      | dm_step | simp -zeta only [ct]
      | ((with_reducible apply DM.All_bwrite); show _ ≤ 2047 ∧ (_ = 0 ∨ (2 ≤ _ ∧ _ + _ ≤ 0x71)); refine ⟨by omega, Or.inr ⟨by decide, ?_⟩⟩; show 0x28 + _ ≤ 0x71; omega)
      | ct_leaf | split | dsimp only | dsimp only [model_body])
  -- the other calls: unfold the function behind the call where `api_body` has it, and traverse
  all_goals first | (dsimp only [api_body]; ct_walk) | ct_walk

/-
  `CohReq`, the condition under which the cache model is a faithful cache, is weaker than the
  contract, so it holds of every request of every call; only the three calls whose contract needs
  valid arguments are looked at again. -/

theorem coh_reloadLdro : DM.All CohReq reloadLowDatarateOptimization := All_mono @ContractReq.coh ct_reloadLdro

theorem coh_api (cap fuel : Nat) (a : Api) : DM.All CohReq (Api.prog cap fuel a) := by
  cases a
  case readRegister r => exact All_bind (All_rread r trivial) fun _ => All_pure _
  case writeRegister r v => exact All_bind (All_swrite r [v] (Or.inr (Nat.le_refl 1))) fun _ => All_pure _
  case loraTxSetForTransmission d =>
    exact All_bind (all_loraTxSetForTransmission @ContractReq.coh d (by decide : Gen.REGFIFO ≠ 1)) fun _ => All_pure _
  all_goals exact All_mono @ContractReq.coh (contract_api cap fuel _ trivial)

end Sx
