import Sx.RunP
import Sx.Props.C02
import Sx.Lemmas.Wp
/-
  `runP` is what the uncached interpreter does in a plain world; together with C02 it is what
  the cached build does for an API call between two operations.
-/
namespace Sx
open Mem Chip Cache

def PRel {α : Type} (o : Outcome α) (p : PRes α) : Prop :=
  match o, p with
  | .done a w, .done b s => a = b ∧ w.chip = s.chip ∧ w.bus = s.bus ∧ w.cbs.map (·.ev) = s.cbs
      ∧ w.Plain ∧ (∀ c ∈ w.cbs, c.reaction = none)
  | .ub u _, .ub u' _ => u = u'
  | _, _ => False

theorem execG_runP (p : Prog α) (w : World) (hpl : w.Plain) (hnr : ∀ c ∈ w.cbs, c.reaction = none) :
    PRel (execG false logCb p w) (runP p ⟨w.chip, w.bus, w.cbs.map (·.ev)⟩) := by
  induction p generalizing w with
  | ret a => exact ⟨rfl, rfl, rfl, rfl, hpl, hnr⟩
  | ub u => rfl
  | sread reg n k ih =>
    simp only [execG, runP, Shadow.sread_false, busRead_plain hpl]
    exact ih _ _ hpl hnr
  | rread reg k ih =>
    simp only [execG, runP, Shadow.rread_false, busRead_plain hpl]
    exact ih _ _ hpl hnr
  | swrite reg d k ih =>
    simp only [execG, runP, Shadow.swrite_false, busWrite_plain hpl]
    exact ih _ _ hpl hnr
  | bwrite reg d k ih =>
    simp only [execG, runP, Shadow.bwrite_false, busWriteBuf_plain hpl]
    exact ih _ _ hpl hnr
  | bread reg n k ih =>
    simp only [execG, runP, busReadBuf_plain hpl]
    exact ih _ _ hpl hnr
  | rawbread reg n k ih =>
    simp only [execG, runP, busReadBuf_plain hpl]
    exact ih _ _ hpl hnr
  | callback e h k ih =>
    simp only [execG, runP, logCb]
    exact ih h { w with cbs := { ev := e } :: w.cbs } hpl fun c hc => by
      rcases List.mem_cons.1 hc with rfl | hc
      · rfl
      · exact hnr c hc

/-- the application does nothing inside callbacks -/
def SysCfg.NoReact (c : SysCfg) : Prop := c.onRx = none ∧ c.onTx = none ∧ c.onCad = none

theorem SysCfg.NoReact.valid {c : SysCfg} (h : c.NoReact) : c.Valid :=
  ⟨fun a e => (by rw [h.1] at e; cases e), fun a e => (by rw [h.2.1] at e; cases e), fun a e => (by rw [h.2.2] at e; cases e)⟩

theorem onCb_noReact' {c : SysCfg} (h : c.NoReact) : c.toCfg.onCb = logCb := by
  funext e hd w
  have : c.toCfg.reactionFor e = none := by
    cases e <;> simp only [Cfg.reactionFor, SysCfg.toCfg, SysCfg.reaction, h.1, h.2.1, h.2.2]
  unfold Cfg.onCb
  rw [this]

theorem onCb_noReact {c : SysCfg} (h : c.NoReact) : c.uncached.toCfg.onCb = logCb :=
  onCb_noReact' (c := c.uncached) h

theorem cbs_of_events {l : List CbRec} (h : ∀ c ∈ l, c.reaction = none) :
    (l.map (·.ev)).map (fun e => ({ ev := e } : CbRec)) = l := by
  induction l with
  | nil => rfl
  | cons x xs ih =>
    obtain ⟨ev, re⟩ := x
    have : re = none := h _ (List.mem_cons_self ..)
    rw [List.map_cons, List.map_cons, ih fun c hc => h c (List.mem_cons_of_mem _ hc), this]

theorem step_uncached_runP (c : SysCfg) (hnr : c.NoReact) (s : Sys) (a : Api) (h : Handle) (hh : s.handle = some h) :
    match runP (Api.prog c.cap c.fuel a h) ⟨s.world.chip, [], []⟩ with
    | .done (r, h') ps =>
      (s.step c.uncached (.api a [] [])).2 = .ret r ((ps.cbs.reverse).map (fun e => { ev := e })) ps.bus.reverse ∧
      (s.step c.uncached (.api a [] [])).1.handle = some h' ∧
      (s.step c.uncached (.api a [] [])).1.world.chip = ps.chip
    | .ub u _ => (s.step c.uncached (.api a [] [])).2 = .ub u := by
  have hp := execG_runP (Api.prog c.cap c.fuel a h) (s.start a [] []) ⟨rfl, rfl⟩ (fun _ hc => nomatch hc)
  have hstep : s.step c.uncached (.api a [] []) = s.finish (execG false logCb (Api.prog c.cap c.fuel a h) (s.start a [] [])) := by
    rw [Sys.step_api, if_neg (by simp [hh]), hh]
    unfold exec
    rw [onCb_noReact hnr]
    rfl
  rw [hstep]
  generalize execG false logCb (Api.prog c.cap c.fuel a h) (s.start a [] []) = o at hp
  change PRel o (runP (Api.prog c.cap c.fuel a h) ⟨s.world.chip, [], []⟩) at hp
  generalize runP (Api.prog c.cap c.fuel a h) ⟨s.world.chip, [], []⟩ = p at hp
  cases o with
  | ub u w =>
    cases p with
    | ub u' ps => exact congrArg Obs.ub hp
    | done _ _ => exact hp.elim
  | done rh w =>
    cases p with
    | ub _ _ => exact hp.elim
    | done rh' ps =>
      obtain ⟨rfl, hchip, hbus, hcbs, hplain, hnoreact⟩ := hp
      obtain ⟨r, h'⟩ := rh
      refine ⟨?_, rfl, ?_⟩
      · show Obs.ret r w.cbs.reverse w.bus.reverse = _
        rw [hbus, ← hcbs, ← List.map_reverse, cbs_of_events fun c hc => hnoreact c (List.mem_reverse.1 hc)]
      · show List.foldl _ w.chip w.sched = _
        rw [hplain.1]
        exact hchip

/-- **Bridge.**  What plain execution (`wp` over `runP`) establishes for an API call holds for
    the same call in the build with the register cache, from any state satisfying the
    invariant of C01 (i.e. after any admissible history): same return value, same handle, same
    chip afterwards, same callbacks, same writes — and the invariant holds again. -/
theorem step_cached_of_wp (c : SysCfg) (hc : c.cached = true) (hnr : c.NoReact)
    (s : Sys) (i : Inv s.world) (a : Api) (hv : a.Valid) (h : Handle) (hh : s.handle = some h)
    (hnc : a.isCreate = false)
    (Q : Except Code Out → Handle → PState → Prop)
    (hw : wp (Api.prog c.cap c.fuel a) h ⟨s.world.chip, [], []⟩ Q) :
    ∃ r h' ps cbs bus,
      (s.step c (.api a [] [])).2 = .ret r cbs bus ∧
      (s.step c (.api a [] [])).1.handle = some h' ∧
      (s.step c (.api a [] [])).1.world.chip = ps.chip ∧
      Q r h' ps ∧ cbs.map (·.ev) = ps.cbs.reverse ∧ writesOf bus = writesOf ps.bus.reverse ∧
      Inv (s.step c (.api a [] [])).1.world := by
  obtain ⟨hrel, hsr⟩ := step_sim c hc hnr.valid s s ⟨rfl, rfl, i⟩ (.api a [] []) ⟨rfl, rfl⟩ hv (fun e he => nomatch he)
  have hinv := step_inv c hc s (.api a [] []) (fun e he => nomatch he) i
  have hu := step_uncached_runP c hnr s a h hh
  unfold wp at hw
  match hr : runP (Api.prog c.cap c.fuel a h) ⟨s.world.chip, [], []⟩ with
  | .ub u ps => rw [hr] at hw; exact hw.elim
  | .done (r, h') ps =>
    rw [hr] at hw hu
    obtain ⟨hobs, hhd, hchip⟩ := hu
    rw [hobs] at hrel
    match hc' : (s.step c (.api a [] [])).2 with
    | .skipped | .env | .ub u => rw [hc'] at hrel; exact hrel.elim
    | .ret r1 cbs1 bus1 =>
      rw [hc'] at hrel
      obtain ⟨rfl, rfl, h3, _⟩ := hrel
      have hsr' := hsr fun u => by rw [hc']; exact Obs.noConfusion
      refine ⟨r1, h', ps, _, bus1, rfl, hsr'.handle.trans hhd, hsr'.chip.trans hchip, hw, ?_, h3, hinv⟩
      rw [List.map_map]
      exact List.map_id ..

/-- the `irq` operation is one handler invocation whose early returns are not errors -/
theorem wp_irq (cap fuel : Nat) (h : Handle) (s : PState) (Q : Except Code Unit → Handle → PState → Prop)
    (hw : wp (Model.handleInterrupt fuel) h s Q) :
    wp (Api.prog cap fuel .irq) h s (fun r h' s' => r = .ok .none ∧ ∃ r0, Q r0 h' s') := by
  unfold Api.prog
  rw [wp_bind, wp_attempt]
  apply wp_mono _ _ _ _ _ _ hw
  intro r h' s' hq
  simp only [wp_pure]
  exact ⟨by trivial, r, hq⟩

theorem step_cached_irq (c : SysCfg) (hc : c.cached = true) (hnr : c.NoReact) (s : Sys) (i : Inv s.world)
    (h : Handle) (hh : s.handle = some h) (Q : Except Code Unit → Handle → PState → Prop)
    (hw : wp (Model.handleInterrupt c.fuel) h ⟨s.world.chip, [], []⟩ Q) :
    ∃ r0 h' ps cbs bus,
      (s.step c (.api .irq [] [])).2 = .ret (.ok .none) cbs bus ∧
      (s.step c (.api .irq [] [])).1.handle = some h' ∧
      (s.step c (.api .irq [] [])).1.world.chip = ps.chip ∧
      Q r0 h' ps ∧ cbs.map (·.ev) = ps.cbs.reverse ∧ Inv (s.step c (.api .irq [] [])).1.world := by
  obtain ⟨r, h', ps, cbs, bus, hobs, hhd, hchip, ⟨rfl, r0, hq⟩, hcbs, _, hinv⟩ :=
    step_cached_of_wp c hc hnr s i .irq trivial h hh rfl _ (wp_irq c.cap c.fuel _ _ _ hw)
  exact ⟨r0, h', ps, cbs, bus, hobs, hhd, hchip, hq, hcbs, hinv⟩

theorem step_cached_unit (c : SysCfg) (hc : c.cached = true) (hnr : c.NoReact) (s : Sys) (i : Inv s.world)
    (a : Api) (hv : a.Valid) (h : Handle) (hh : s.handle = some h) (hnc : a.isCreate = false) (x : DM Unit)
    (hx : Api.prog c.cap c.fuel a = (do x; pure Out.none)) (Q : Except Code Unit → Handle → PState → Prop)
    (hw : wp x h ⟨s.world.chip, [], []⟩ Q) (hok : ∀ e h' s', ¬Q (.error e) h' s') :
    ∃ h' ps cbs bus,
      (s.step c (.api a [] [])).2 = .ret (.ok .none) cbs bus ∧
      (s.step c (.api a [] [])).1.handle = some h' ∧
      (s.step c (.api a [] [])).1.world.chip = ps.chip ∧
      Q (.ok ()) h' ps ∧ Inv (s.step c (.api a [] [])).1.world := by
  obtain ⟨r, h', ps, cbs, bus, hobs, hhd, hchip, hq, _, _, hinv⟩ :=
    step_cached_of_wp c hc hnr s i a hv h hh hnc _ (hx ▸ wp_api_unit _ _ _ _ hw)
  match r, hq with
  | .error e, hq => exact (hok e _ _ hq).elim
  | .ok _, ⟨rfl, hq⟩ => exact ⟨h', ps, cbs, bus, hobs, hhd, hchip, hq, hinv⟩

/-- the bridge read backwards: from a return of the build with the cache to plain execution -/
theorem step_cached_ret (c : SysCfg) (hc : c.cached = true) (hnr : c.NoReact)
    (s : Sys) (i : Inv s.world) (a : Api) (hv : a.Valid) (h : Handle) (hh : s.handle = some h)
    (_hnc : a.isCreate = false) (r : Except Code Out) (cbs : List CbRec) (bus : List BusEv)
    (hret : (s.step c (.api a [] [])).2 = .ret r cbs bus) :
    ∃ h' ps, runP (Api.prog c.cap c.fuel a h) ⟨s.world.chip, [], []⟩ = .done (r, h') ps ∧
      (s.step c (.api a [] [])).1.handle = some h' ∧ writesOf bus = writesOf ps.bus.reverse := by
  obtain ⟨hrel, hsr⟩ := step_sim c hc hnr.valid s s ⟨rfl, rfl, i⟩ (.api a [] []) ⟨rfl, rfl⟩ hv (fun e he => nomatch he)
  have hu := step_uncached_runP c hnr s a h hh
  rw [hret] at hrel
  match hr : runP (Api.prog c.cap c.fuel a h) ⟨s.world.chip, [], []⟩ with
  | .ub u ps =>
    rw [hr] at hu
    rw [show (s.step c.uncached (.api a [] [])).2 = .ub u from hu] at hrel
    exact hrel.elim
  | .done (r0, h0) ps =>
    rw [hr] at hu
    obtain ⟨ho, hhd, _⟩ := hu
    rw [ho] at hrel
    obtain ⟨rfl, _, h3, _⟩ := hrel
    have hsr' := hsr fun u => by rw [hret]; exact Obs.noConfusion
    exact ⟨h0, ps, rfl, hsr'.handle.trans hhd, h3⟩

end Sx
