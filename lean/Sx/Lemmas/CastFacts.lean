import Sx.Lemmas.Beacon
import Sx.Model.Driver
/-
  Float → integer conversions of the driver that are defined for every input (C08): the facts, proved
  with the rounding lemmas; `Props/C08.lean` states them as property theorems.
-/
open Sx Sx.Model

namespace Sx

theorem ofNat32_bound (n : Nat) (hn : n < 2 ^ 64) :
    ∃ r : Rat, F.ofNat b32 n = .fin r ∧ 0 ≤ r ∧ r ≤ 2 * (n : Rat) ∧ (0 < n → (1 : Rat) / 2 ≤ r) := by
  rw [F.ofNat_eq]
  rcases Nat.eq_zero_or_pos n with rfl | hpos
  · exact ⟨0, by rw [Nat.cast_zero, round_zero], le_refl _, by simp, fun h => absurd h (by decide)⟩
  · have h1 : (1 : Rat) ≤ (n : Rat) := by exact_mod_cast hpos
    have h2 : (n : Rat) < 18446744073709551616 := by exact_mod_cast hn
    obtain ⟨r, e, a, b⟩ := round32_near (n : Rat) (by linarith) (by linarith)
    exact ⟨r, e, by linarith, by linarith, fun _ => by linarith⟩

theorem toUInt64_round (q : Rat) (h0 : q = 0 ∨ 1 / 1000000000000000000000000000000 ≤ q) (h2 : q ≤ 9223372036854775808) :
    ∃ v, F.toUInt 64 (F.round b32 q) = some v := by
  rcases h0 with rfl | h1
  · exact ⟨_, by rw [round_zero]; exact toUInt_fin 64 (le_refl _) (by norm_num)⟩
  · obtain ⟨r, e, a, b⟩ := round32_near q h1 (by linarith)
    exact ⟨_, by rw [e]; exact toUInt_fin 64 (by linarith) (by norm_num; linarith)⟩

/-- `(uint64_t)((frequency << 19) / 32e6f)` in `sx127x_set_frequency` -/
theorem cast_set_frequency (f : UInt64) : ∃ d, frfOf f = some d := by
  obtain ⟨r, hr, r0, r2, rpos⟩ := ofNat32_bound (f <<< 19).toNat (f <<< 19).toNat_lt
  have hnq : ((f <<< 19).toNat : Rat) < 18446744073709551616 := by exact_mod_cast (f <<< 19).toNat_lt
  have hq : r / 32000000 = 0 ∨ 1 / 1000000000000000000000000000000 ≤ r / 32000000 := by
    rcases Nat.eq_zero_or_pos (f <<< 19).toNat with h | h
    · rw [h, Nat.cast_zero] at r2; left; rw [le_antisymm (by linarith) r0, zero_div]
    · have := rpos h; right; linarith
  obtain ⟨v, hv⟩ := toUInt64_round (r / 32000000) hq (by linarith)
  unfold frfOf
  simp only
  rw [osc_value, hr, F.div_fin _ _ (by norm_num), hv]
  exact ⟨_, rfl⟩

/-- `(uint64_t)(raw * 32e6f)` in `sx127x_get_frequency`, where `raw` holds three register bytes; the
    theorem covers all four -/
theorem cast_get_frequency (raw : UInt32) : ∃ v, freqOfRaw raw = some v := by
  obtain ⟨r, hr, r0, r2, rpos⟩ := ofNat32_bound raw.toNat (lt_trans raw.toNat_lt (by norm_num))
  have hnq : (raw.toNat : Rat) < 4294967296 := by exact_mod_cast raw.toNat_lt
  have hq : r * 32000000 = 0 ∨ 1 / 1000000000000000000000000000000 ≤ r * 32000000 := by
    rcases Nat.eq_zero_or_pos raw.toNat with h | h
    · rw [h, Nat.cast_zero] at r2; left; rw [le_antisymm (by linarith) r0, zero_mul]
    · have := rpos h; right; linarith
  obtain ⟨v, hv⟩ := toUInt64_round (r * 32000000) hq (by linarith)
  unfold freqOfRaw
  simp only
  rw [osc_value, hr, F.mul_fin, hv]
  exact ⟨_, rfl⟩

/-- `(int8_t) ppm` in `sx127x_lora_set_ppm_offset` behind the range check `-129 < ppm < 128`, which NaN
    and the infinities fail -/
theorem cast_ppm (ppm : F) (h1 : F.gt ppm (.fin (-129)) = true) (h2 : F.lt ppm (.fin 128) = true) :
    ∃ v, F.toSInt 8 ppm = some v := by
  cases ppm with
  | nan => simp [F.gt, F.lt] at h1
  | inf s => cases s <;> simp [F.gt, F.lt] at h1 h2
  | fin q =>
    simp only [F.gt, F.lt, decide_eq_true_eq] at h1 h2
    exact ⟨_, toSInt_fin 8 (by norm_num; linarith) (by norm_num; linarith)⟩

/-- a finite float with explicit bounds (positive when `lo` is) -/
def Pos (x : F) (lo hi : Rat) : Prop := ∃ q, x = .fin q ∧ lo ≤ q ∧ q ≤ hi

-- the numeric windows in the hypotheses from here on are not tight: they only have to fit inside
-- `round32_near`'s `10^±30`
theorem pos_round (q lo hi : Rat) (hlo : (1 : Rat) / 100000000000000000000 ≤ lo) (h1 : lo ≤ q) (h2 : q ≤ hi) (hhi : hi ≤ 100000000000000000000) :
    Pos (F.round b32 q) (lo / 2) (2 * hi) := by
  obtain ⟨r, e, a, b⟩ := round32_near q (by linarith) (by linarith)
  exact ⟨r, e, by linarith, by linarith⟩

theorem pos_div {x y : F} {a b c d : Rat} (hx : Pos x a b) (hy : Pos y c d) (ha : (1 : Rat) / 1000000 ≤ a) (hb : b ≤ 1000000000000000)
    (hc : (1 : Rat) / 100 ≤ c) (hd : d ≤ 1000000) : Pos (F.div b32 x y) (a / d / 2) (2 * (b / c)) := by
  obtain ⟨p, rfl, p1, p2⟩ := hx
  obtain ⟨q, rfl, q1, q2⟩ := hy
  have hq0 : q ≠ 0 := by intro h; rw [h] at q1; linarith
  rw [F.div_fin _ _ hq0]
  have hqpos : 0 < q := by linarith
  have hdpos : 0 < d := by linarith
  have hcpos : 0 < c := by linarith
  refine pos_round (p / q) (a / d) (b / c) ?_ (div_le_div₀ (by linarith) p1 hqpos q2)
    (div_le_div₀ (by linarith) p2 hcpos q1) ?_
  · rw [le_div_iff₀ hdpos]; linarith
  · rw [div_le_iff₀ hcpos]; linarith

theorem timerCoefficient_some (x : F) (lo hi : Rat) (h : Pos x lo hi) (h0 : 0 ≤ lo) :
    ∃ c, timerCoefficient x = some c ∧ c ≤ 255 := by
  obtain ⟨q, rfl, q1, q2⟩ := h
  have hq0 : 0 ≤ q := le_trans h0 q1
  unfold timerCoefficient
  rw [ofNat32 255 (by norm_num)]
  by_cases hg : F.gt (.fin q) (.fin ((255 : Nat) : Rat)) = true
  · rw [if_pos hg]; exact ⟨255, rfl, le_refl _⟩
  · rw [if_neg hg]
    have hq255 : q ≤ 255 := by simpa [F.gt, F.lt] using hg
    obtain ⟨f1, _⟩ := floor_toNat q hq0
    exact ⟨_, toUInt_fin 8 hq0 (by norm_num; linarith), by exact_mod_cast le_trans f1 hq255⟩

def NN (x : F) (hi : Rat) : Prop := ∃ q, x = .fin q ∧ 0 ≤ q ∧ q ≤ hi

/-- resolution times an 8-bit coefficient -/
theorem nn_mul_coef {x : F} {a b : Rat} (hx : Pos x a b) (ha : (1 : Rat) / 100 ≤ a) (hb : b ≤ 1000) (c : Nat) (hc : c ≤ 255) :
    NN (F.mul b32 x (F.ofNat b32 c)) (2 * (b * 255)) := by
  obtain ⟨p, rfl, p1, p2⟩ := hx
  have hc255 : (c : Rat) ≤ 255 := by exact_mod_cast hc
  rw [ofNat32 c (by omega), F.mul_fin]
  rcases Nat.eq_zero_or_pos c with rfl | h
  · rw [Nat.cast_zero, mul_zero, round_zero]
    exact ⟨0, rfl, le_refl _, by linarith⟩
  · have hc1 : (1 : Rat) ≤ (c : Rat) := by exact_mod_cast h
    obtain ⟨z, hz, z1, z2⟩ := pos_round (p * (c : Rat)) a (b * 255) (by linarith)
      (le_trans p1 (le_mul_of_one_le_right (by linarith) hc1)) (mul_le_mul p2 hc255 (by linarith) (by linarith))
      (by linarith)
    exact ⟨z, hz, by linarith, z2⟩

/-- what is left of the interval after timer 1 -/
theorem pos_sub {r z R Z : Rat} (hr : R ≤ r) (hr2 : r ≤ 10000000000) (hz0 : 0 ≤ z) (hz : z ≤ Z) (hgap : Z + 1 / 2 ≤ R) :
    Pos (F.sub b32 (.fin r) (.fin z)) ((R - Z) / 2) (2 * 10000000000) := by
  rw [F.sub_fin]
  exact pos_round (r - z) (R - Z) 10000000000 (by linarith) (by linarith) (by linarith) (by norm_num)

/-- an interval above 133620 ms (2 · 262 · 255, the most the two timers count), as a float: rounding moves 133621
    by less than 0.01 -/
theorem iv_bound (n : Nat) (h1 : 133620 < n) (h2 : n < 2 ^ 32) :
    ∃ r : Rat, F.ofNat b32 n = .fin r ∧ (13362099 : Rat) / 100 ≤ r ∧ r ≤ 10000000000 := by
  have hn1 : (133621 : Rat) ≤ (n : Rat) := by exact_mod_cast h1
  have hn2 : (n : Rat) < 4294967296 := by exact_mod_cast h2
  obtain ⟨r, e, a, b⟩ := round32_near (n : Rat) (by linarith) (by linarith)
  exact ⟨r, e, by linarith, by linarith⟩

/-- above 133620 ms (2 · 262 · 255) both coefficients saturate at the coarsest resolution -/
theorem beaconTimers_saturated (n : Nat) (h1 : 133620 < n) (h2 : n < 2 ^ 32) : beaconTimers n = some (255, 255, 15) := by
  obtain ⟨r, hr, r1, r2⟩ := iv_bound n h1 h2
  have hch : beaconChoice (F.ofNat b32 n) =
      (.fin 262, F.div b32 (F.div b32 (.fin r) (.fin 262)) (.fin 2), some (.fin 262)) := by
    rw [hr, beaconChoice_coarse r (by linarith), if_neg (by linarith)]
  -- r / 262 / 2 ≥ 255.0019 and each rounding loses at most 2^-24 of it
  obtain ⟨q1, e1, a1, b1⟩ := round32_near (r / 262) (by rw [le_div_iff₀ (by norm_num)]; linarith only [r1])
    (by rw [div_le_iff₀ (by norm_num)]; linarith only [r2])
  obtain ⟨q2, e2, a2, _⟩ := round32_near (q1 / 2) (by linarith only [a1, r1]) (by linarith only [b1, r2])
  have hc1 : timerCoefficient (F.div b32 (F.div b32 (.fin r) (.fin 262)) (.fin 2)) = some 255 := by
    rw [F.div_fin b32 r (by norm_num), e1, F.div_fin b32 q1 (by norm_num), e2]
    exact timerCoefficient_sat q2 (by linarith only [a2, a1, r1])
  rw [beaconTimers_of n _ _ _ 255 hch hc1, hr, ofNat32 255 (by norm_num), F.mul_fin,
    show (262 : Rat) * ((255 : Nat) : Rat) = ((66810 : Nat) : Rat) by norm_num, ← F.ofNat_eq,
    ofNat32 66810 (by norm_num), F.sub_fin]
  -- what timer 1 leaves is at least 66810.99
  obtain ⟨m, e3, a3, b3⟩ := round32_near (r - ((66810 : Nat) : Rat)) (by norm_num; linarith only [r1])
    (by norm_num; linarith only [r2])
  norm_num at a3 b3
  obtain ⟨q3, e4, a4, _⟩ := round32_near (m / 262) (by linarith only [a3, r1]) (by linarith only [b3, r2])
  have hc2 : timerCoefficient (F.div b32 (.fin m) (.fin 262)) = some 255 := by
    rw [F.div_fin b32 m (by norm_num), e4]
    exact timerCoefficient_sat q3 (by linarith only [a4, a3, r1])
  rw [e3, beaconFine_some _ _ _ _ 255 hc2]
  exact congrArg (fun x => some (_, _, x)) (by decide +kernel : resolBits (.fin 262) (.fin 262) = 15)

/-- so above the documented maximum, too, no conversion of the selection is out of range (C08) -/
theorem beacon_some_large (n : Nat) (h1 : 133620 < n) (h2 : n < 2 ^ 32) : ∃ t, beaconTimers n = some t :=
  ⟨_, beaconTimers_saturated n h1 h2⟩

end Sx
