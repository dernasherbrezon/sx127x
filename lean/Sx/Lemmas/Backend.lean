import Sx.Model.Backend
/-
  For the backend half of C19: byte strings of little-endian words, the byte swap of `ntohl`, and
  the shape of the frames.
-/
namespace Sx.Backend

theorem byte_toNat (n : Nat) : (byte n).toNat = n % 256 := by
  simp [byte]

theorem byte_of_lt {n : Nat} (h : n < 256) : (byte n).toNat = n := by
  rw [byte_toNat]; omega

theorem and_7f_of_le' : ∀ reg, reg ≤ 0x7f → reg &&& 0x7f = reg := by
  intro reg h
  rw [show (0x7f : Nat) = 2 ^ 7 - 1 from rfl, Nat.and_two_pow_sub_one_eq_mod]
  exact Nat.mod_eq_of_lt (by omega)

theorem and_7f_of_le : ∀ reg, reg ≤ 0x7f → (reg % 256) &&& 0x7f = reg := by
  intro reg h
  rw [Nat.mod_eq_of_lt (by omega)]
  exact and_7f_of_le' reg h

theorem or_80_of_le : ∀ reg, reg ≤ 0x7f → reg ||| 0x80 = reg + 128 := by
  intro reg h
  have h2 : 2 ^ 7 * 1 + reg = 2 ^ 7 * 1 ||| reg := Nat.two_pow_add_eq_or_of_lt (by omega) 1
  rw [Nat.or_comm, Nat.add_comm]
  exact h2.symm

theorem leBytes_zero : ∀ k, leBytes k 0 = zeros k
  | 0 => rfl
  | k + 1 => by
    show byte 0 :: leBytes k (0 / 256) = 0 :: zeros k
    rw [Nat.zero_div, leBytes_zero k]; rfl

/-- the object representation of a small `uint64_t`: the byte, then zeros -/
theorem leBytes_small (k x : Nat) (h : x < 256) : leBytes (k + 1) x = byte x :: zeros k := by
  show byte x :: leBytes k (x / 256) = _
  rw [Nat.div_eq_of_lt h, leBytes_zero]

theorem zeros_length (n : Nat) : (zeros n).length = n := by simp [zeros]

theorem bswap32_bytes (a b c d : Nat) (ha : a < 256) (hb : b < 256) (hc : c < 256) (hd : d < 256) :
    bswap32 (a + 256 * b + 65536 * c + 16777216 * d) = a * 16777216 + b * 65536 + c * 256 + d := by
  unfold bswap32
  have h1 : (a + 256 * b + 65536 * c + 16777216 * d) % 256 = a := by omega
  have h2 : (a + 256 * b + 65536 * c + 16777216 * d) / 256 % 256 = b := by omega
  have h3 : (a + 256 * b + 65536 * c + 16777216 * d) / 65536 % 256 = c := by omega
  have h4 : (a + 256 * b + 65536 * c + 16777216 * d) / 16777216 % 256 = d := by omega
  rw [h1, h2, h3, h4]

theorem lin_word (g : UInt8) (ans : List UInt8) (n : Nat) (h1 : 1 ≤ n) (h4 : n ≤ 4) (hl : ans.length = n) :
    bswap32 ((fromLE (rxBytes { garbage := g, miso := ans } (n + 1)) / 256) % 4294967296) / 2 ^ ((4 - n) * 8)
      = msbFirst ans := by
  have hn : n = 1 ∨ n = 2 ∨ n = 3 ∨ n = 4 := by omega
  rcases hn with rfl | rfl | rfl | rfl
  · match ans, hl with
    | [a], _ =>
      have := a.toNat_lt; have := g.toNat_lt
      have e : (fromLE (rxBytes { garbage := g, miso := [a] } 2) / 256) % 4294967296 = a.toNat + 256 * 0 + 65536 * 0 + 16777216 * 0 := by
        simp only [rxBytes, zeros, List.replicate, List.cons_append, List.nil_append, List.take, fromLE]; omega
      rw [e, bswap32_bytes _ _ _ _ (by omega) (by omega) (by omega) (by omega)]
      simp only [msbFirst, List.foldl]; omega
  · match ans, hl with
    | [a, b], _ =>
      have := a.toNat_lt; have := g.toNat_lt; have := b.toNat_lt
      have e : (fromLE (rxBytes { garbage := g, miso := [a, b] } 3) / 256) % 4294967296 = a.toNat + 256 * b.toNat + 65536 * 0 + 16777216 * 0 := by
        simp only [rxBytes, zeros, List.replicate, List.cons_append, List.nil_append, List.take, fromLE]; omega
      rw [e, bswap32_bytes _ _ _ _ (by omega) (by omega) (by omega) (by omega)]
      simp only [msbFirst, List.foldl]; omega
  · match ans, hl with
    | [a, b, c], _ =>
      have := a.toNat_lt; have := g.toNat_lt; have := b.toNat_lt; have := c.toNat_lt
      have e : (fromLE (rxBytes { garbage := g, miso := [a, b, c] } 4) / 256) % 4294967296 = a.toNat + 256 * b.toNat + 65536 * c.toNat + 16777216 * 0 := by
        simp only [rxBytes, zeros, List.replicate, List.cons_append, List.nil_append, List.take, fromLE]; omega
      rw [e, bswap32_bytes _ _ _ _ (by omega) (by omega) (by omega) (by omega)]
      simp only [msbFirst, List.foldl]; omega
  · match ans, hl with
    | [a, b, c, d], _ =>
      have := a.toNat_lt; have := g.toNat_lt; have := b.toNat_lt; have := c.toNat_lt; have := d.toNat_lt
      have e : (fromLE (rxBytes { garbage := g, miso := [a, b, c, d] } 5) / 256) % 4294967296 = a.toNat + 256 * b.toNat + 65536 * c.toNat + 16777216 * d.toNat := by
        simp only [rxBytes, zeros, List.replicate, List.cons_append, List.nil_append, List.take, fromLE]; omega
      rw [e, bswap32_bytes _ _ _ _ (by omega) (by omega) (by omega) (by omega)]
      simp only [msbFirst, List.foldl]; omega

theorem rxData_exact (ans : List UInt8) (n : Nat) (hl : ans.length = n) : rxData { miso := ans } n = ans := by
  subst hl; simp [rxData]

/-- below `2^32` the truncations of the shift-and-add loop do nothing: `k` bytes accumulated so
    far and the remaining ones make at most four -/
theorem foldl_shift_add (l : List UInt8) (acc k : Nat) (hacc : acc < 256 ^ k) (hk : k + l.length ≤ 4) :
    l.foldl (fun acc b => ((acc * 256) % 4294967296 + b.toNat) % 4294967296) acc
      = l.foldl (fun acc b => acc * 256 + b.toNat) acc := by
  induction l generalizing acc k with
  | nil => rfl
  | cons b bs ih =>
    have hb := b.toNat_lt
    rw [List.length_cons] at hk
    have hstep : acc * 256 + b.toNat < 256 ^ (k + 1) := by rw [Nat.pow_succ]; omega
    have hlt : acc * 256 + b.toNat < 256 ^ 4 :=
      Nat.lt_of_lt_of_le hstep (Nat.pow_le_pow_right (by decide) (by omega))
    have h1 : acc * 256 % 4294967296 = acc * 256 := Nat.mod_eq_of_lt (Nat.lt_of_le_of_lt (Nat.le_add_right _ _) hlt)
    rw [List.foldl_cons, List.foldl_cons, h1, Nat.mod_eq_of_lt hlt]
    exact ih _ (k + 1) hstep (by omega)

/-- the shift-and-add loop of the ESP-IDF backend over the received bytes -/
theorem esp_word (ans : List UInt8) (n : Nat) (h4 : n ≤ 4) (hl : ans.length = n) :
    (rxData { miso := ans } n).foldl (fun acc b => ((acc * 256) % 4294967296 + b.toNat) % 4294967296) 0
      = msbFirst ans := by
  rw [rxData_exact ans n hl]
  exact foldl_shift_add ans 0 0 (by decide) (by omega)

theorem rxBytes_exact (g : UInt8) (ans : List UInt8) (n : Nat) (hl : ans.length = n) :
    (rxBytes { garbage := g, miso := ans } (n + 1)).drop 1 = ans := by
  subst hl; simp [rxBytes]

end Sx.Backend
