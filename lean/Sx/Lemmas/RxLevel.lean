import Sx.Lemmas.RxHeader
import Sx.Lemmas.Mem
/- What holds between two invocations of the receive handler (`RxInv`: configuration, phase, conservation of the frame),
   that arrivals and failed transfers keep it, and the FIFO-level path of `read_payload_batch` (`batch_level`). -/
namespace Sx
open Sx.Model DM

/-- what does not change during a reception -/
structure RxCfg (hdr P : List UInt8) (h : Handle) (g : RxG) : Prop where
  mode : h.opmod = Gen.SX127x_MODE_RX_CONT ∨ h.opmod = Gen.SX127x_MODE_RX_SINGLE
  modem : h.activeModem = Gen.SX127x_MODULATION_FSK ∨ h.activeModem = Gen.SX127x_MODULATION_OOK
  cb : h.rxCb = true
  fits : P.length ≤ h.packet.length
  p16 : P.length < 65536
  hdrOk : HdrOk h.format g hdr P
  crc : h.crcType ≠ Gen.SX127X_CRC_NONE ↔ g.crcOn = true

/-- the header has been read: `received` payload bytes are stored -/
structure PhaseB (hdr P : List UInt8) (h : Handle) (g : RxG) : Prop where
  exp : h.expected.toNat = P.length
  rcv : h.received.toNat ≤ P.length
  stored : h.packet.take h.received.toNat = P.take h.received.toNat
  taken : g.taken = hdr ++ P.take h.received.toNat

/-- progress of the host between invocations: header not yet read, or read with a non-empty payload -/
def RxPhase (hdr P : List UInt8) (h : Handle) (g : RxG) : Prop :=
  (h.expected = 0 ∧ h.received = 0 ∧ g.taken = []) ∨ (PhaseB hdr P h g ∧ h.expected ≠ 0)

theorem RxCfg.of_same {hdr P h h' g g'} (hc : RxCfg hdr P h g) (hs : g.Same g')
    (hm : h'.opmod = h.opmod) (hmo : h'.activeModem = h.activeModem) (hcb : h'.rxCb = h.rxCb) (hp : h'.packet.length = h.packet.length) (hf : h'.format = h.format)
    (hcr : h'.crcType = h.crcType) : RxCfg hdr P h' g' := by
  refine ⟨by rw [hm]; exact hc.mode, by rw [hmo]; exact hc.modem, by rw [hcb]; exact hc.cb, by rw [hp]; exact hc.fits, hc.p16, ?_, ?_⟩
  · have := hc.hdrOk; unfold HdrOk at *; rw [hf, hs.cfg1, hs.cfg2, hs.plen]; exact this
  · rw [hcr]; unfold RxG.crcOn; rw [hs.cfg1]; exact hc.crc

theorem PhaseB.rest {hdr P h g} (hB : PhaseB hdr P h g) (hi : RxGI hdr P g) : g.fifo ++ g.pending = P.drop h.received.toNat := by
  have hst := hi.stream
  rw [hB.taken, List.append_assoc, List.append_assoc] at hst
  have h2 : P.take h.received.toNat ++ (g.fifo ++ g.pending) = P.take h.received.toNat ++ P.drop h.received.toNat := by
    rw [List.take_append_drop]; exact List.append_cancel_left hst
  exact List.append_cancel_left h2

theorem PhaseB.of_eq {hdr P h h' g g'} (hB : PhaseB hdr P h g) (he : h'.expected = h.expected) (hr : h'.received = h.received)
    (hpk : h'.packet = h.packet) (ht : g'.taken = g.taken) : PhaseB hdr P h' g' :=
  ⟨by rw [he]; exact hB.exp, by rw [hr]; exact hB.rcv, by rw [hr, hpk]; exact hB.stored, by rw [hr, ht]; exact hB.taken⟩

theorem PhaseB.expected_ne {hdr P h g} (hB : PhaseB hdr P h g) (hP : 0 < P.length) : h.expected ≠ 0 := fun h0 => by
  have := hB.exp; rw [h0] at this; exact absurd this (Nat.ne_of_lt hP)

theorem PhaseB.advance {hdr P h g} (hB : PhaseB hdr P h g) (hi : RxGI hdr P g) {n : Nat} (hn : n ≤ g.fifo.length)
    (hcap : h.received.toNat + n ≤ h.packet.length) (rcv : UInt16) (hr : rcv.toNat = h.received.toNat + n) :
    PhaseB hdr P { h with packet := h.packet.wrs h.received.toNat (g.fifo.take n), received := rcv } (g.take n) := by
  have hrest := hB.rest hi
  have hle : h.received.toNat + n ≤ P.length := by
    have hrcv := hB.rcv
    have := congrArg List.length hrest
    rw [List.length_append, List.length_drop] at this; omega
  have hchunk : g.fifo.take n = (P.drop h.received.toNat).take n := by rw [← hrest, List.take_append_of_le_length hn]
  have hlen : (g.fifo.take n).length = n := by rw [List.length_take]; exact Nat.min_eq_left hn
  refine ⟨hB.exp, by show rcv.toNat ≤ _; rw [hr]; exact hle, ?_, ?_⟩
  · show (h.packet.wrs h.received.toNat (g.fifo.take n)).take rcv.toNat = P.take rcv.toNat
    have := take_wrs h.packet h.received.toNat (g.fifo.take n) (by rw [hlen]; exact hcap)
    rw [hlen] at this
    rw [hr, this, hB.stored, hchunk, ← List.take_add]
  · show (g.take n).taken = hdr ++ P.take rcv.toNat
    rw [(RxG.take_facts g n hn hi.wf).2.2.1, hB.taken, hr, hchunk, List.append_assoc, ← List.take_add]

theorem hdr_len_le {fmt g hdr P} (h : HdrOk fmt g hdr P) : hdr.length ≤ 2 := by
  rcases h with ⟨_, len, rest, rfl, hr, _⟩ | ⟨_, hl, _⟩
  · rw [List.length_cons, hr]; split <;> omega
  · rw [hl]; split <;> omega

/-- the header step of `read_payload_batch` in either phase: afterwards the length is known -/
theorem header_any (hdr P : List UInt8) (h : Handle) (g : RxG) (hc : RxCfg hdr P h g) (hi : RxGI hdr P g)
    (hph : RxPhase hdr P h g) (hfifo : g.taken = [] → hdr.length ≤ g.fifo.length) :
    DM.gwp rxE readPayloadHeader h g (fun g' r h' =>
      (∃ c, r = .ok (some c) ∧ PhaseB hdr P h' g' ∧ h' = { h with expected := UInt16.ofNat P.length }
      ∧ RxGI hdr P g' ∧ g.fifo.length ≤ g'.fifo.length + hdr.length ∧ g.Same g'
      ∧ ((g.over = true → g.ready = true) → hdr.length < g.fifo.length → (g'.over = true → g'.ready = true))
      ∧ (g.over = true → g'.over = true))
      ∨ (∃ c, r = .error c ∧ h' = h ∧ Fwd hdr P g g' ∧ g'.faulted = true)) := by
  rcases hph with ⟨hexp, hrcv, htk⟩ | ⟨hB, hexp⟩
  · refine gwp_mono rxE _ _ _ _ _ ?_ (header_spec hdr P h g hi hexp htk (hfifo htk) hc.hdrOk)
    intro g' r h' hpost
    rcases hpost with ⟨hr, hh, hgi, htk', hrest⟩ | hfail
    case inr => exact Or.inr hfail
    refine Or.inl ⟨hdr.length, hr, ?_, hh, hgi, hrest⟩
    subst hh
    refine ⟨ofNat16 _ hc.p16, ?_, ?_, ?_⟩
    · show h.received.toNat ≤ _; rw [hrcv]; exact Nat.zero_le _
    · show h.packet.take h.received.toNat = _; rw [hrcv]; rfl
    · show g'.taken = hdr ++ P.take h.received.toNat; rw [hrcv, htk']; exact (List.append_nil hdr).symm
  · unfold readPayloadHeader
    rw [gwp_bind, gwp_getH]
    dsimp only
    rw [if_pos hexp, gwp_pure]
    have hh : h = { h with expected := UInt16.ofNat P.length } := by
      have : h.expected = UInt16.ofNat P.length := by
        apply UInt16.toNat_inj.mp; rw [hB.exp, ofNat16 _ hc.p16]
      rw [← this]
    exact Or.inl ⟨0, rfl, hB, hh, hi, Nat.le_add_right _ _, RxG.Same.refl g, fun hk _ => hk, id⟩

/-- PayloadReady has not been lost -/
def RxG.Kept (g : RxG) : Prop := g.over = true → g.ready = true

/-- everything about a reception that holds between two handler invocations -/
structure RxInv (hdr P : List UInt8) (h : Handle) (g : RxG) : Prop where
  cfg : RxCfg hdr P h g
  gi : RxGI hdr P g
  phase : RxPhase hdr P h g
  kept : g.Kept

theorem RxPhase.of_eq {hdr P h h' g g'} (hp : RxPhase hdr P h g) (he : h'.expected = h.expected) (hr : h'.received = h.received)
    (hpk : h'.packet = h.packet) (ht : g'.taken = g.taken) : RxPhase hdr P h' g' := by
  rcases hp with ⟨a, b, c⟩ | ⟨hB, e⟩
  · exact Or.inl ⟨he.trans a, hr.trans b, ht.trans c⟩
  · exact Or.inr ⟨hB.of_eq he hr hpk ht, by rw [he]; exact e⟩

theorem RxInv.fwd {hdr P h g g'} (hv : RxInv hdr P h g) (hf : Fwd hdr P g g') : RxInv hdr P h g' :=
  ⟨hv.cfg.of_same hf.same rfl rfl rfl rfl rfl rfl, hf.gi, hv.phase.of_eq rfl rfl rfl hf.taken, hf.kept hv.kept⟩

theorem RxInv.adv {hdr P h g g1} (hv : RxInv hdr P h g) (ha : g.Adv g1) : RxInv hdr P h g1 :=
  hv.fwd (Fwd.of_adv hv.gi ha)

theorem RxInv.advF {hdr P h g g1} (hv : RxInv hdr P h g) (ha : g.AdvF g1) : RxInv hdr P h g1 ∧ g.Same g1 ∧ g1.faulted = true :=
  have hf := Fwd.of_advF hv.gi ha
  ⟨hv.fwd hf.1, hf.1.same, hf.2⟩

theorem RxInv.irq {hdr P h g} (hv : RxInv hdr P h g) (v : UInt8) : RxInv hdr P h { g with irq := v } :=
  ⟨hv.cfg.of_same (RxG.Same.irq g v) rfl rfl rfl rfl rfl rfl, hv.gi.irq v, hv.phase.of_eq rfl rfl rfl rfl, hv.kept⟩

theorem RxInv.handle {hdr P h h' g} (hv : RxInv hdr P h g) (hm : h'.opmod = h.opmod) (hmo : h'.activeModem = h.activeModem) (hcb : h'.rxCb = h.rxCb)
    (hpk : h'.packet = h.packet) (hf : h'.format = h.format) (hcr : h'.crcType = h.crcType)
    (he : h'.expected = h.expected) (hr : h'.received = h.received) : RxInv hdr P h' g :=
  ⟨hv.cfg.of_same (RxG.Same.refl g) hm hmo hcb (by rw [hpk]) hf hcr, hv.gi, hv.phase.of_eq he hr hpk rfl, hv.kept⟩

/-- `read_payload_batch(true)`: the FIFO-level path -/
theorem batch_level (fuel : Nat) (hdr P : List UInt8) (h : Handle) (g : RxG) (hv : RxInv hdr P h g)
    (hlv : 31 < g.fifo.length) :
    DM.gwp rxE (fskOokReadPayloadBatch fuel true) h g (fun g' _ h' =>
      RxInv hdr P h' g' ∧ g'.cbs = g.cbs ∧ h'.rssiAvail = h.rssiAvail ∧ g.Same g') := by
  unfold fskOokReadPayloadBatch
  rw [gwp_bind]
  have hl2 := hdr_len_le hv.cfg.hdrOk
  refine gwp_mono rxE _ _ _ _ _ ?_ (header_any hdr P h g hv.cfg hv.gi hv.phase (fun _ => by omega))
  intro g1 r1 h1 hpost1
  rcases hpost1 with ⟨c, hr1, hB, hh1, hi1, hlen1, hs1, hk1, _⟩ | ⟨c, hre, hhe, hfe, _⟩
  case inr =>
    subst hre hhe
    exact ⟨hv.fwd hfe, hfe.same.cbs, rfl, hfe.same⟩
  subst hr1
  dsimp only
  rw [gwp_bind, gwp_getH]
  dsimp only
  have hrest := hB.rest hi1
  -- more than 31 bytes in the FIFO, at most 2 of them header: a batch of 30 leaves payload behind
  have hPlen : h1.received.toNat + 30 ≤ P.length := by
    have := congrArg List.length hrest
    simp only [List.length_append, List.length_drop] at this
    omega
  have hexp1 : h1.expected ≠ 0 := hB.expected_ne (by omega)
  have hcfg1 : RxCfg hdr P h1 g1 := by subst hh1; exact hv.cfg.of_same hs1 rfl rfl rfl rfl rfl rfl
  have hrssi : h1.rssiAvail = h.rssiAvail := by subst hh1; rfl
  have hv1 : RxInv hdr P h1 g1 := ⟨hcfg1, hi1, Or.inr ⟨hB, hexp1⟩, hk1 hv.kept (by omega)⟩
  have hne : ¬h1.expected = h1.received := by
    intro he; have := congrArg UInt16.toNat he; rw [hB.exp] at this; omega
  rw [if_neg hne, if_neg (by rw [hB.exp]; exact Nat.not_lt.mpr hcfg1.fits)]
  simp only [if_true]
  by_cases hb : h1.received.toNat + (Gen.HALF_MAX_FIFO_THRESHOLD - 1) < h1.expected.toNat
  · rw [if_pos hb]
    have hb' : h1.received.toNat + 30 < P.length := by rw [hB.exp] at hb; exact hb
    have hcap : h1.received.toNat + (Gen.HALF_MAX_FIFO_THRESHOLD - 1) ≤ h1.packet.length := Nat.le_trans hPlen hcfg1.fits
    rw [if_pos hcap, gwp_bind]
    refine gwp_rx_bread hi1.live _ (fun ce g2 hf => ?_) fun d g2 ha2 _ hdv => ?_
    · obtain ⟨hve, hse, _⟩ := hv1.advF hf
      exact ⟨hve, (hs1.trans hse).cbs, hrssi, hs1.trans hse⟩
    have hv2 := hv1.adv ha2
    have hf2 := Fwd.of_adv hi1 ha2
    have hn30 : 30 ≤ g2.fifo.length := by have := hf2.len; omega
    have hd : d = g2.fifo.take 30 := hdv hn30
    subst hd
    have hB2 : PhaseB hdr P h1 g2 := hB.of_eq rfl rfl rfl hf2.taken
    have hsum : (h1.received + UInt16.ofNat (Gen.HALF_MAX_FIFO_THRESHOLD - 1)).toNat = h1.received.toNat + 30 := by
      rw [UInt16.toNat_add]
      show (h1.received.toNat + 30) % 65536 = _
      have := hv.cfg.p16; omega
    obtain ⟨_, hs3, _, hfifo3, _, hover3, hrdy3⟩ := RxG.take_facts g2 30 hn30 hf2.gi.wf
    have hsame : g.Same (g2.take 30) := (hs1.trans hf2.same).trans hs3
    dsimp only
    rw [gwp_bind, gwp_packetCopy]
    refine ⟨by rw [List.length_take, Nat.min_eq_left hn30]; exact hcap, ?_⟩
    dsimp only
    rw [gwp_modH]
    refine ⟨⟨hcfg1.of_same (hf2.same.trans hs3) rfl rfl rfl (by simp) rfl rfl, hf2.gi.take hn30,
      Or.inr ⟨hB2.advance hf2.gi hn30 hcap _ hsum, hexp1⟩, ?_⟩, hsame.cbs, hrssi, hsame⟩
    -- PayloadReady kept: at least one byte of the packet stays behind
    intro ho
    have ho2 : g2.over = true := by rw [← hover3]; exact ho
    have hne' : g2.fifo.drop 30 ≠ [] := fun he => by
      have h1l := congrArg List.length (hB2.rest hf2.gi)
      rw [hf2.gi.wf.overPending ho2, List.append_nil, List.length_drop] at h1l
      have h2l := congrArg List.length he
      rw [List.length_drop, List.length_nil] at h2l; omega
    show (g2.take 30).ready = true
    rw [(hrdy3 hne').1]
    exact hv2.kept ho2
  · rw [if_neg hb, gwp_pure]
    exact ⟨hv1, hs1.cbs, hrssi, hs1⟩
end Sx
