import Sx.Lemmas.Ghost
/-
  The environment of an FSK/OOK transmission, as the datasheet describes it (C04): a 64-byte FIFO
  from which the modulator may take any number of bytes before each SPI transfer (and so also
  between the transfers of a running handler), flag bits derived from its level, and a transmit
  callback after which the session is over.  Written with datasheet literals only.
-/
namespace Sx

structure TxG where
  fifo : List UInt8 := []      -- content of the chip FIFO, oldest first
  out : List UInt8 := []       -- bytes the modulator has taken, oldest first
  handed : List UInt8 := []    -- every byte written into the FIFO by the host, oldest first
  irq : UInt8 := 0             -- the last RegIrqFlags2 value read
  cbs : List CbEvent := []     -- callbacks so far
  ended : Bool := false        -- a callback has run: the application may have done anything
  poison : Bool := false       -- FIFO overflow, a FIFO flush by acknowledging FifoOverrun, or a
                               -- request the transmit path is not supposed to make

namespace TxG
/-- the modulator takes `k` bytes -/
def shift (g : TxG) (k : Nat) : TxG := { g with fifo := g.fifo.drop k, out := g.out ++ g.fifo.take k }

/-- a burst write of `d` into the FIFO -/
def put (g : TxG) (d : List UInt8) : TxG :=
  if g.fifo.length + d.length ≤ 64 then { g with fifo := g.fifo ++ d, handed := g.handed ++ d }
  else { g with poison := true }

def live (g : TxG) : Prop := g.poison = false ∧ g.ended = false

/-- nothing is lost or duplicated inside the chip -/
def Conserved (g : TxG) : Prop := g.handed = g.out ++ g.fifo

theorem shift_conserved {g : TxG} (h : g.Conserved) (k : Nat) : (g.shift k).Conserved := by
  unfold Conserved shift at *
  simp [h, List.append_assoc]

theorem put_conserved {g : TxG} (h : g.Conserved) (d : List UInt8) : (g.put d).Conserved := by
  unfold Conserved put at *
  split <;> simp [h, List.append_assoc]
end TxG

/-- what a read of RegIrqFlags2 may return while transmitting with FIFO content `f`:
    PayloadReady and FifoOverrun are not raised, FifoLevel clear means at most 31 bytes
    (FifoThreshold = 31), FifoEmpty set means empty -/
def TxFlagsOk (v : UInt8) (f : List UInt8) : Prop :=
  v &&& 0x04 = 0 ∧ v &&& 0x10 = 0 ∧ (v &&& 0x20 = 0 → f.length ≤ 31) ∧ (v &&& 0x40 ≠ 0 → f = [])

def txRLive (g : TxG) (q : Req) (a : Ans) (g' : TxG) : Prop :=
  match q, a with
  | .rread reg, .u8 r =>
    if reg = 0x3f then
      match r with
      | .ok v => ∃ k, g' = { g.shift k with irq := v } ∧ TxFlagsOk v (g.shift k).fifo
      | .error _ => ∃ k, g' = g.shift k
    else g'.poison = true
  | .swrite reg d, .unit _ =>
    if reg = 0x3f ∧ d.length = 1 ∧ d.headD 0 &&& 0x10 = 0 then ∃ k, g' = g.shift k else g'.poison = true
  | .bwrite reg d, .unit r =>
    if reg = 0 then
      match r with
      | .ok _ => ∃ k, g' = (g.shift k).put d
      | .error _ => ∃ k, g' = g.shift k
    else g'.poison = true
  | _, _ => g'.poison = true

def txR (g : TxG) (q : Req) (a : Ans) (g' : TxG) : Prop :=
  if g.poison = true ∨ g.ended = true then g' = g else txRLive g q a g'

/-- after a callback the application may have done anything to handle and chip: the session
    this environment describes is over -/
def txC (g : TxG) (e : CbEvent) (_h _h' : Handle) (g' : TxG) : Prop :=
  g' = { g with cbs := g.cbs ++ [e], ended := true }

def txE : GEnv TxG := { R := txR, C := txC }

end Sx
