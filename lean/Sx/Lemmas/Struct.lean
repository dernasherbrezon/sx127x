import Sx.Api
import Sx.Lemmas.WalkAttr
/-
  Structural reasoning about driver programs: `DM.All P x` says that every request `x` can issue,
  from any handle and for any answers of chip and bus, satisfies `P`.  At the end, the two sets of
  driver functions the traversals of all calculi unfold (`api_body`, `model_body`).
-/
namespace Sx

structure DM.All (P : Req → Prop) (x : DM α) : Prop where
  all : ∀ h, (x h).All P

namespace DM
variable {P : Req → Prop}

theorem All_mono {Q : Req → Prop} (hPQ : ∀ r, P r → Q r) {x : DM α} (hx : DM.All P x) : DM.All Q x :=
  ⟨fun h => Prog.All_mono hPQ (hx.all h)⟩

theorem All_pure (a : α) : DM.All P (pure a : DM α) := ⟨fun _ => trivial⟩
theorem All_pure' (a : α) : DM.All P (DM.pure' a : DM α) := ⟨fun _ => trivial⟩
theorem All_fail (c : Code) : DM.All P (DM.fail c : DM α) := ⟨fun _ => trivial⟩
theorem All_ub (u : UB) : DM.All P (DM.ub u : DM α) := ⟨fun _ => trivial⟩
theorem All_getH : DM.All P DM.getH := ⟨fun _ => trivial⟩
theorem All_setH (h : Handle) : DM.All P (DM.setH h) := ⟨fun _ => trivial⟩
theorem All_modH (f : Handle → Handle) : DM.All P (DM.modH f) := ⟨fun _ => trivial⟩
theorem All_cb (e : CbEvent) : DM.All P (DM.cb e) := ⟨fun _ _ => trivial⟩
theorem All_sread (reg n : Nat) (h : P (.sread reg n)) : DM.All P (DM.sread reg n) := ⟨fun _ => ⟨h, fun _ => trivial⟩⟩
theorem All_rread (reg : Nat) (h : P (.rread reg)) : DM.All P (DM.rread reg) := ⟨fun _ => ⟨h, fun _ => trivial⟩⟩
theorem All_swrite (reg : Nat) (d : List UInt8) (h : P (.swrite reg d)) : DM.All P (DM.swrite reg d) :=
  ⟨fun _ => ⟨h, fun _ => trivial⟩⟩
theorem All_bwrite (reg : Nat) (d : List UInt8) (h : P (.bwrite reg d)) : DM.All P (DM.bwrite reg d) :=
  ⟨fun _ => ⟨h, fun _ => trivial⟩⟩
theorem All_bread (reg n : Nat) (h : P (.bread reg n)) : DM.All P (DM.bread reg n) := ⟨fun _ => ⟨h, fun _ => trivial⟩⟩
theorem All_rawbread (reg n : Nat) (h : P (.rawbread reg n)) : DM.All P (DM.rawbread reg n) :=
  ⟨fun _ => ⟨h, fun _ => trivial⟩⟩

theorem All_bind {x : DM α} {f : α → DM β} (hx : DM.All P x) (hf : ∀ a, DM.All P (f a)) : DM.All P (x >>= f) := by
  constructor
  intro h
  show ((x h).bind _).All P
  apply Prog.All_bind (hx.all h)
  intro ⟨r, h'⟩
  cases r with
  | ok a => exact (hf a).all h'
  | error c => trivial

theorem All_attempt {x : DM α} (hx : DM.All P x) : DM.All P (DM.attempt x) := by
  constructor
  intro h
  show ((x h).bind _).All P
  apply Prog.All_bind (hx.all h)
  intro ⟨r, h'⟩
  trivial

theorem All_ofExcept (r : Except Code α) : DM.All P (DM.ofExcept r) := by
  cases r <;> exact ⟨fun _ => trivial⟩

theorem All_if {c : Prop} [Decidable c] {x y : DM α} (hx : c → DM.All P x) (hy : ¬c → DM.All P y) :
    DM.All P (if c then x else y) := by
  split
  · exact hx ‹_›
  · exact hy ‹_›

theorem All_ite {c : Prop} [Decidable c] {x y : DM α} (hx : DM.All P x) (hy : DM.All P y) :
    DM.All P (if c then x else y) := All_if (fun _ => hx) (fun _ => hy)

end DM

/-- one step of the structural traversal of a driver function.  The rules are matched against the
    goal without unfolding anything, so a rule that does not apply is dismissed at once; the
    function being traversed has to be unfolded by name first. -/
macro "dm_step" : tactic => `(tactic| with_reducible first
  | intro _
  | apply DM.All_bind
  | apply DM.All_attempt
  | apply DM.All_if
  | exact DM.All_pure _
  | exact DM.All_pure' _
  | exact DM.All_fail _
  | exact DM.All_ub _
  | exact DM.All_getH
  | exact DM.All_setH _
  | exact DM.All_modH _
  | exact DM.All_cb _
  | assumption)

-- `api_body`: the functions behind public calls that no other driver function calls (a simp set cannot hold a
-- function and exclude it at one use); `model_body`: the small functions traversals may look into
open Model in
attribute [api_body] Model.create setOpmod loraResetFifo rxSetLnaGain rxSetLnaBoostHf loraSetBandwidth
  loraSetModemConfig2 loraSetSyncword setPreambleLength loraSetImplicitHeader loraTxSetExplicitHeader
  loraSetFrequencyHopping rxGetPacketRssi rxGetFrequencyError dumpRegisters txSetPaConfig loraTxSetForTransmission
  loraSetPpmOffset fskOokTxSetForTransmissionWithAddress fskOokTxStartBeacon fskOokTxStopBeacon fskOokSetBitrate
  fskSetFdev ookRxSetPeakMode ookRxSetFixedMode ookRxSetAvgMode fskOokRxSetCollisionRestart fskOokRxSetAfcAuto
  fskOokRxSetAfcBandwidth fskOokRxSetBandwidth fskOokRxSetTrigger fskOokSetSyncword fskOokRxSetRssiConfig
  fskOokSetPacketEncoding fskOokSetCrc fskOokSetPacketFormat fskOokSetAddressFiltering fskSetDataShaping
  ookSetDataShaping fskOokSetPreambleType fskOokRxSetPreambleDetector fskOokRxCalibrate fskOokGetRawTemperature
  fskOokSetTempMonitor Model.writeRegister

open Model in
attribute [model_body] checkModulation checkFskOok reloadLowDatarateOptimization loraSetLowDatarateOptimization loraGetBandwidth fskOokReadFixedPacketLength
  fskOokIsAddressFiltered readPayloadHeader fskOokGetRssi rxCallback txCallback loraRxReadPayload loraReadGuard
  getFrequency loraRxGetPacketSnr txSetOcp
  fskOokTxSetForTransmission packetStore packetCopy appendRegister

end Sx
