import Mathlib.Tactic.Linarith
import Mathlib.Tactic.Positivity
import Mathlib.Tactic.NormNum
import Mathlib.Tactic.Ring
import Mathlib.Tactic.FieldSimp
import Mathlib.Algebra.Order.Field.Power
import Mathlib.Data.Rat.Defs
import Mathlib.Data.Rat.Floor
import Sx.F
/-
  Facts about the soft-float rounding `rnd` of Sx/F.lean (round to nearest even to `p` significant
  bits): error bounds, monotonicity, and exactness on dyadics with a numerator below 2^p, integers
  among them (which with monotonicity gives `floor (rnd x) ≥ floor x`).
  This file and its dependants are the only ones that import Mathlib (single modules); the
  executable model does not depend on them.
-/
namespace Sx

theorem two_zpow_pos (k : Int) : (0 : Rat) < 2 ^ k := by positivity

theorem nat_log2_bounds (n : Nat) (hn : n ≠ 0) :
    (2 : Rat) ^ (Nat.log2 n : Int) ≤ (n : Rat) ∧ (n : Rat) < (2 : Rat) ^ ((Nat.log2 n : Int) + 1) := by
  rw [zpow_add_one₀ (by norm_num), zpow_natCast]
  exact ⟨by exact_mod_cast Nat.log2_self_le hn, by exact_mod_cast @Nat.lt_log2_self n⟩

theorem rat_log_bounds (a : Rat) (ha : 0 < a) :
    (2 : Rat) ^ (((Nat.log2 a.num.natAbs : Int) - (Nat.log2 a.den : Int)) - 1) < a ∧
    a < (2 : Rat) ^ (((Nat.log2 a.num.natAbs : Int) - (Nat.log2 a.den : Int)) + 1) := by
  have hn : a.num.natAbs ≠ 0 := Int.natAbs_ne_zero.mpr (ne_of_gt (Rat.num_pos.mpr ha))
  obtain ⟨n1, n2⟩ := nat_log2_bounds _ hn
  obtain ⟨d1, d2⟩ := nat_log2_bounds _ a.den_ne_zero
  have hd : (0 : Rat) < (a.den : Rat) := by exact_mod_cast a.den_pos
  have ha' : a = (a.num.natAbs : Rat) / (a.den : Rat) := by
    rw [Nat.cast_natAbs, abs_of_pos (Rat.num_pos.mpr ha)]
    exact (Rat.num_div_den a).symm
  rw [sub_sub, sub_add_eq_add_sub, zpow_sub₀ (by norm_num), zpow_sub₀ (by norm_num)]
  constructor
  · calc _ ≤ (a.num.natAbs : Rat) / (2 : Rat) ^ ((Nat.log2 a.den : Int) + 1) :=
          div_le_div_of_nonneg_right n1 (le_of_lt (two_zpow_pos _))
      _ < (a.num.natAbs : Rat) / (a.den : Rat) :=
          div_lt_div_of_pos_left (lt_of_lt_of_le (two_zpow_pos _) n1) hd d2
      _ = a := ha'.symm
  · calc a = (a.num.natAbs : Rat) / (a.den : Rat) := ha'
      _ ≤ (a.num.natAbs : Rat) / (2 : Rat) ^ (Nat.log2 a.den : Int) :=
          div_le_div_of_nonneg_left (le_of_lt (lt_of_lt_of_le (two_zpow_pos _) n1)) (two_zpow_pos _) d1
      _ < _ := div_lt_div_of_pos_right n2 (two_zpow_pos _)

theorem ilog2_spec (a : Rat) (ha : 0 < a) : (2 : Rat) ^ (ilog2 a) ≤ a ∧ a < (2 : Rat) ^ (ilog2 a + 1) := by
  obtain ⟨b1, b2⟩ := rat_log_bounds a ha
  unfold ilog2
  rw [if_neg (not_le.mpr ha)]
  simp only
  split
  · rename_i h; exact absurd h (not_le.mpr b2)
  · split
    · rename_i h1 h2; exact ⟨h2, b2⟩
    · rename_i h1 h2
      refine ⟨le_of_lt b1, ?_⟩
      have : ((Nat.log2 a.num.natAbs : Int) - (Nat.log2 a.den : Int)) - 1 + 1 = (Nat.log2 a.num.natAbs : Int) - (Nat.log2 a.den : Int) := by ring
      rw [this]
      exact not_le.mp h2

theorem ilog2_lt_of_lt_zpow {a : Rat} (ha : 0 < a) {k : Int} (h : a < (2 : Rat) ^ k) : ilog2 a < k :=
  (zpow_lt_zpow_iff_right₀ (by norm_num : (1 : Rat) < 2)).mp (lt_of_le_of_lt (ilog2_spec a ha).1 h)

theorem le_ilog2 {a : Rat} (ha : 0 < a) {k : Int} (h : (2 : Rat) ^ k ≤ a) : k ≤ ilog2 a :=
  Int.lt_add_one_iff.mp
    ((zpow_lt_zpow_iff_right₀ (by norm_num : (1 : Rat) < 2)).mp (lt_of_le_of_lt h (ilog2_spec a ha).2))

theorem normal_of_one_le (emin : Int) (hemin : emin ≤ 0) (q : Rat) (h : 1 ≤ q) : emin ≤ ilog2 q :=
  le_trans hemin (le_ilog2 (by linarith) (by rwa [zpow_zero]))

theorem rfloor_eq (s : Rat) : Rat.floor s = ⌊s⌋ := rfl

theorem rhe_cases (s : Rat) : roundHalfEven s = s.floor ∨ roundHalfEven s = s.floor + 1 := by
  unfold roundHalfEven
  simp only
  by_cases h1 : s - s.floor < 1 / 2
  · rw [if_pos h1]; exact Or.inl rfl
  · rw [if_neg h1]
    by_cases h2 : 1 / 2 < s - s.floor
    · rw [if_pos h2]; exact Or.inr rfl
    · rw [if_neg h2]
      by_cases h3 : s.floor % 2 = 0
      · rw [if_pos h3]; exact Or.inl rfl
      · rw [if_neg h3]; exact Or.inr rfl

theorem rhe_err (s : Rat) : |((roundHalfEven s : Int) : Rat) - s| ≤ 1 / 2 := by
  have k1 := Rat.floor_le s
  have k2 := Rat.lt_floor_add_one s
  push_cast at k2
  unfold roundHalfEven
  simp only
  rw [abs_le]
  by_cases h1 : s - s.floor < 1 / 2
  · rw [if_pos h1]; constructor <;> linarith
  · rw [if_neg h1]
    by_cases h2 : 1 / 2 < s - s.floor
    · rw [if_pos h2]; push_cast; constructor <;> linarith
    · rw [if_neg h2]
      have : s - s.floor = 1 / 2 := le_antisymm (not_lt.mp h2) (not_lt.mp h1)
      by_cases h3 : s.floor % 2 = 0
      · rw [if_pos h3]; constructor <;> linarith
      · rw [if_neg h3]; push_cast; constructor <;> linarith

theorem rhe_int (n : Int) : roundHalfEven (n : Rat) = n := by
  unfold roundHalfEven
  simp only [Rat.floor_intCast, sub_self]
  norm_num

theorem rhe_ge_int (s : Rat) (n : Int) (h : (n : Rat) ≤ s) : n ≤ roundHalfEven s := by
  have : n ≤ s.floor := by rw [rfloor_eq]; exact Int.le_floor.mpr h
  rcases rhe_cases s with e | e <;> rw [e] <;> omega

theorem rhe_le_int (s : Rat) (n : Int) (h : s ≤ (n : Rat)) : roundHalfEven s ≤ n := by
  rcases eq_or_lt_of_le h with e | e
  · rw [e, rhe_int]
  · have : s.floor < n := by rw [rfloor_eq]; exact Int.floor_lt.mpr e
    rcases rhe_cases s with e' | e' <;> rw [e'] <;> omega

theorem rnd_pos_eq (p : Nat) (emin : Int) (q : Rat) (hq : 0 < q) :
    rnd p emin q = ((roundHalfEven (q / (2 : Rat) ^ (ulpExp p emin q)) : Int) : Rat) * (2 : Rat) ^ (ulpExp p emin q) := by
  unfold rnd
  rw [if_neg (ne_of_gt hq)]
  simp only [if_neg (not_lt.mpr (le_of_lt hq))]

theorem rnd_nonneg (p : Nat) (emin : Int) {q : Rat} (hq : 0 < q) : 0 ≤ rnd p emin q := by
  rw [rnd_pos_eq p emin q hq]
  exact mul_nonneg (by exact_mod_cast rhe_ge_int _ 0 (by push_cast; exact le_of_lt (div_pos hq (two_zpow_pos _))))
    (le_of_lt (two_zpow_pos _))

theorem rnd_neg (p : Nat) (emin : Int) (q : Rat) : rnd p emin (-q) = -rnd p emin q := by
  unfold rnd
  by_cases h0 : q = 0
  · rw [h0, neg_zero, if_pos rfl, if_pos rfl, neg_zero]
  · have h0' : -q ≠ 0 := by simpa using h0
    rw [if_neg h0', if_neg h0]
    rcases lt_or_gt_of_ne h0 with hn | hp
    · have h1 : ¬(-q < 0) := by linarith
      simp only [hn, h1, ↓reduceIte, neg_neg]
    · have h1 : (-q < 0) := by linarith
      have h2 : ¬(q < 0) := by linarith
      simp only [h1, h2, ↓reduceIte, neg_neg]

theorem ulpExp_normal (p : Nat) (emin : Int) (q : Rat) (hn : emin ≤ ilog2 q) :
    ulpExp p emin q = ilog2 q - ((p : Int) - 1) := by
  unfold ulpExp
  exact max_eq_left (by omega)

theorem rnd_err (p : Nat) (emin : Int) (q : Rat) (hq : 0 < q) :
    |rnd p emin q - q| ≤ (2 : Rat) ^ (ulpExp p emin q) / 2 := by
  rw [rnd_pos_eq p emin q hq]
  have he := two_zpow_pos (ulpExp p emin q)
  calc _ = |(((roundHalfEven (q / (2 : Rat) ^ ulpExp p emin q) : Int) : Rat) - q / (2 : Rat) ^ ulpExp p emin q) *
          (2 : Rat) ^ ulpExp p emin q| := by rw [sub_mul, div_mul_cancel₀ q (ne_of_gt he)]
    _ = |((roundHalfEven (q / (2 : Rat) ^ ulpExp p emin q) : Int) : Rat) - q / (2 : Rat) ^ ulpExp p emin q| *
          (2 : Rat) ^ ulpExp p emin q := by rw [abs_mul, abs_of_pos he]
    _ ≤ 1 / 2 * (2 : Rat) ^ ulpExp p emin q := mul_le_mul_of_nonneg_right (rhe_err _) (le_of_lt he)
    _ = (2 : Rat) ^ ulpExp p emin q / 2 := by ring

theorem rnd_rel (p : Nat) (emin : Int) (q : Rat) (hq : 0 < q) (hn : emin ≤ ilog2 q) :
    |rnd p emin q - q| ≤ q * (2 : Rat) ^ (-(p : Int)) := by
  have h := rnd_err p emin q hq
  rw [ulpExp_normal p emin q hn] at h
  have hs := (ilog2_spec q hq).1
  have e1 : (2 : Rat) ^ (ilog2 q - ((p : Int) - 1)) / 2 = (2 : Rat) ^ (ilog2 q) * (2 : Rat) ^ (-(p : Int)) := by
    rw [show ilog2 q - ((p : Int) - 1) = ilog2 q + -(p : Int) + 1 by ring, zpow_add_one₀ (by norm_num),
      mul_div_cancel_right₀ _ (by norm_num), zpow_add₀ (by norm_num)]
  rw [e1] at h
  calc |rnd p emin q - q| ≤ (2 : Rat) ^ (ilog2 q) * (2 : Rat) ^ (-(p : Int)) := h
    _ ≤ q * (2 : Rat) ^ (-(p : Int)) := mul_le_mul_of_nonneg_right hs (le_of_lt (two_zpow_pos _))

theorem rhe_mono {s t : Rat} (h : s ≤ t) : roundHalfEven s ≤ roundHalfEven t := by
  -- two roundings a whole step apart in the wrong order would force `s = t`
  by_contra hc
  have hc' : ((roundHalfEven t : Int) : Rat) + 1 ≤ (roundHalfEven s : Int) := by
    exact_mod_cast (by omega : roundHalfEven t + 1 ≤ roundHalfEven s)
  have e1 := abs_le.mp (rhe_err s)
  have e2 := abs_le.mp (rhe_err t)
  have hst : s = t := le_antisymm h (by linarith)
  subst hst; omega

theorem two_zpow_split (e : Int) (j : Nat) : (2 : Rat) ^ (e + j) = (((2 ^ j : Nat) : Int) : Rat) * (2 : Rat) ^ e := by
  rw [zpow_add₀ (by norm_num), zpow_natCast]; push_cast; ring

theorem rnd_mono (p : Nat) (hp : 1 ≤ p) (emin : Int) {x y : Rat} (hx : 0 < x) (hxy : x ≤ y) :
    rnd p emin x ≤ rnd p emin y := by
  have hy : 0 < y := lt_of_lt_of_le hx hxy
  rw [rnd_pos_eq p emin x hx, rnd_pos_eq p emin y hy]
  have hl : ilog2 x ≤ ilog2 y := by
    have := ilog2_lt_of_lt_zpow hx (lt_of_le_of_lt hxy (ilog2_spec y hy).2); omega
  rcases lt_or_eq_of_le (show ulpExp p emin x ≤ ulpExp p emin y by unfold ulpExp; omega) with he | he
  · -- different binades: the power of two between them is a multiple of either ulp
    set L := ilog2 y
    have hey : ulpExp p emin y = L - ((p : Int) - 1) := by unfold ulpExp at he ⊢; omega
    have hxL : x < (2 : Rat) ^ L := by
      have : ilog2 x + 1 ≤ L := by unfold ulpExp at he; omega
      exact lt_of_lt_of_le (ilog2_spec x hx).2 (zpow_le_zpow_right₀ (by norm_num) this)
    have split : ∀ e : Int, e ≤ L → ∃ j : Nat, (2 : Rat) ^ L = ((2 ^ j : Nat) : Int) * (2 : Rat) ^ e := by
      intro e hle
      obtain ⟨j, hj⟩ := Int.eq_ofNat_of_zero_le (show 0 ≤ L - e by omega)
      exact ⟨j, by rw [← two_zpow_split, ← hj, add_sub_cancel]⟩
    obtain ⟨j, hj⟩ := split (ulpExp p emin x) (by omega)
    obtain ⟨i, hi⟩ := split (ulpExp p emin y) (by omega)
    have h1 := rhe_le_int (x / (2 : Rat) ^ ulpExp p emin x) ((2 ^ j : Nat) : Int)
      (by rw [div_le_iff₀ (two_zpow_pos _), ← hj]; exact le_of_lt hxL)
    have h2 := rhe_ge_int (y / (2 : Rat) ^ ulpExp p emin y) ((2 ^ i : Nat) : Int)
      (by rw [le_div_iff₀ (two_zpow_pos _), ← hi]; exact (ilog2_spec y hy).1)
    calc _ ≤ (((2 ^ j : Nat) : Int) : Rat) * (2 : Rat) ^ ulpExp p emin x :=
          mul_le_mul_of_nonneg_right (by exact_mod_cast h1) (le_of_lt (two_zpow_pos _))
      _ = (((2 ^ i : Nat) : Int) : Rat) * (2 : Rat) ^ ulpExp p emin y := by rw [← hj, ← hi]
      _ ≤ _ := mul_le_mul_of_nonneg_right (by exact_mod_cast h2) (le_of_lt (two_zpow_pos _))
  · rw [he]
    exact mul_le_mul_of_nonneg_right
      (by exact_mod_cast rhe_mono (div_le_div_of_nonneg_right hxy (le_of_lt (two_zpow_pos _))))
      (le_of_lt (two_zpow_pos _))

theorem rnd_dyadic_exact (p : Nat) (_hp : 1 ≤ p) (emin : Int) (m : Nat) (hm0 : 0 < m) (hm : m < 2 ^ p) (k : Int)
    (hn : emin ≤ ilog2 ((m : Rat) * (2 : Rat) ^ k)) :
    rnd p emin ((m : Rat) * (2 : Rat) ^ k) = (m : Rat) * (2 : Rat) ^ k := by
  have hq : 0 < (m : Rat) * (2 : Rat) ^ k := mul_pos (by exact_mod_cast hm0) (two_zpow_pos k)
  -- `m * 2^k < 2^(p+k)`, so the ulp exponent `e` is at most `k` and `m * 2^k / 2^e` is an integer
  have hL : ilog2 ((m : Rat) * (2 : Rat) ^ k) < (p : Int) + k :=
    ilog2_lt_of_lt_zpow hq (by
      rw [zpow_add₀ (by norm_num), zpow_natCast]
      exact mul_lt_mul_of_pos_right (by exact_mod_cast hm) (two_zpow_pos k))
  rw [rnd_pos_eq p emin _ hq, ulpExp_normal p emin _ hn]
  obtain ⟨j, hj⟩ := Int.eq_ofNat_of_zero_le (show 0 ≤ k - (ilog2 ((m : Rat) * (2 : Rat) ^ k) - ((p : Int) - 1)) by omega)
  generalize ilog2 ((m : Rat) * (2 : Rat) ^ k) - ((p : Int) - 1) = e at hj ⊢
  obtain rfl : k = e + j := by omega
  have : (m : Rat) * (2 : Rat) ^ (e + j) = (((m * 2 ^ j : Nat) : Int) : Rat) * (2 : Rat) ^ e := by
    rw [two_zpow_split]; push_cast; ring
  rw [this, mul_div_assoc, div_self (ne_of_gt (two_zpow_pos e)), mul_one, rhe_int]

theorem rnd_nat_exact (p : Nat) (hp : 1 ≤ p) (emin : Int) (hemin : emin ≤ 0) (n : Nat) (hn0 : 0 < n) (hnp : n < 2 ^ p) :
    rnd p emin (n : Rat) = (n : Rat) := by
  have := rnd_dyadic_exact p hp emin n hn0 hnp 0
  rw [zpow_zero, mul_one] at this
  exact this (normal_of_one_le emin hemin _ (by exact_mod_cast hn0))

theorem rnd_ge_nat (p : Nat) (hp : 1 ≤ p) (emin : Int) (hemin : emin ≤ 0) (q : Rat)
    (n : Nat) (hn0 : 0 < n) (hnp : n < 2 ^ p) (h : (n : Rat) ≤ q) : (n : Rat) ≤ rnd p emin q := by
  rw [← rnd_nat_exact p hp emin hemin n hn0 hnp]
  exact rnd_mono p hp emin (by exact_mod_cast hn0) h

end Sx
