import Lean.Meta.Tactic.Simp.RegisterCommand

/-- the interrupt-flag masks of the driver, as bytes -/
register_simp_attr irq_bits
