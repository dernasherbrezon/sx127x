import Sx.Lemmas.TxFifo
import Sx.Lemmas.Mem
/- The transmit environment step by step: `TxG.Later` (the modulator has taken bytes in between) is a preorder, and one
   rule per request of the transmit handler says what `txR` answers and where it leaves the environment. -/
namespace Sx
open Sx.Model DM

theorem frame_chunk (p : Mem) (L s t : Nat) (hL : L ≤ p.length) (hst : s + t ≤ L) :
    (p.take L).take (s + t) = (p.take L).take s ++ p.rds s t := by
  rw [rds_eq_drop_take _ _ _ (by omega)]
  rw [List.take_take, List.take_take, Nat.min_eq_left hst, Nat.min_eq_left (by omega : s ≤ L)]
  rw [List.take_add]

theorem toSend_val (e r : UInt16) (hle : r.toNat ≤ e.toNat) :
    let diff : Int := (e.toNat : Int) - (r.toNat : Int)
    let toSend : UInt8 := if diff > ((Gen.HALF_MAX_FIFO_THRESHOLD - 1 : Nat) : Int) then u8 (Gen.HALF_MAX_FIFO_THRESHOLD - 1)
                            else UInt8.ofNat (diff % 256).toNat
    toSend.toNat = min (e.toNat - r.toNat) 30 := by
  intro diff toSend
  show (if diff > ((Gen.HALF_MAX_FIFO_THRESHOLD - 1 : Nat) : Int) then u8 (Gen.HALF_MAX_FIFO_THRESHOLD - 1)
                            else UInt8.ofNat (diff % 256).toNat).toNat = _
  have hd : diff = ((e.toNat - r.toNat : Nat) : Int) := by show (e.toNat : Int) - r.toNat = _; omega
  split
  · rename_i hgt
    have : e.toNat - r.toNat > 30 := by rw [hd] at hgt; simp [Gen.HALF_MAX_FIFO_THRESHOLD] at hgt; omega
    rw [Nat.min_eq_right (by omega)]; rfl
  · rename_i hgt
    have h30 : e.toNat - r.toNat ≤ 30 := by rw [hd] at hgt; simp [Gen.HALF_MAX_FIFO_THRESHOLD] at hgt; omega
    rw [Nat.min_eq_left h30, hd]
    have : ((e.toNat - r.toNat : Nat) : Int) % 256 = ((e.toNat - r.toNat : Nat) : Int) := by omega
    rw [this]
    simp
    omega

/-- `g1` is `g` after the modulator has taken some bytes (and flags were read) -/
structure TxG.Later (g g1 : TxG) : Prop where
  handed : g1.handed = g.handed
  cbs : g1.cbs = g.cbs
  ended : g1.ended = g.ended
  poison : g1.poison = g.poison
  cons : g.Conserved → g1.Conserved
  len : g1.fifo.length ≤ g.fifo.length
  empty : g.fifo = [] → g1.fifo = []

namespace TxG
theorem Later.refl (g : TxG) : g.Later g := ⟨rfl, rfl, rfl, rfl, id, Nat.le_refl _, id⟩
theorem Later.trans {a b c : TxG} (h1 : a.Later b) (h2 : b.Later c) : a.Later c :=
  ⟨h2.handed.trans h1.handed, h2.cbs.trans h1.cbs, h2.ended.trans h1.ended, h2.poison.trans h1.poison,
   fun h => h2.cons (h1.cons h), Nat.le_trans h2.len h1.len, fun h => h2.empty (h1.empty h)⟩
theorem later_shift (g : TxG) (k : Nat) : g.Later (g.shift k) :=
  ⟨rfl, rfl, rfl, rfl, fun h => shift_conserved h k, by simp [shift], fun h => by simp [shift, h]⟩
theorem later_shift_irq (g : TxG) (k : Nat) (v : UInt8) : g.Later { g.shift k with irq := v } :=
  ⟨rfl, rfl, rfl, rfl, fun h => shift_conserved h k, by simp [shift], fun h => by simp [shift, h]⟩
theorem Later.live {g g1 : TxG} (h : g.Later g1) (hl : g.live) : g1.live := ⟨h.poison.trans hl.1, h.ended.trans hl.2⟩
end TxG

theorem txR_live {g : TxG} (hl : g.live) (q a g') : txE.R g q a g' ↔ txRLive g q a g' := by
  show txR g q a g' ↔ _
  unfold txR
  rw [if_neg (by simp [hl.1, hl.2])]

theorem txR_read {g : TxG} (hl : g.live) (r g') (hr : txE.R g (.rread Gen.REGIRQFLAGS2) (.u8 r) g') :
    g.Later g' ∧ match r with
      | .ok v => g'.irq = v ∧ TxFlagsOk v g'.fifo
      | .error _ => g'.irq = g.irq := by
  have hr := (txR_live hl _ _ _).mp hr
  cases r with
  | ok v => obtain ⟨k, rfl, hf⟩ := hr; exact ⟨TxG.later_shift_irq g k v, rfl, hf⟩
  | error c => obtain ⟨k, rfl⟩ := hr; exact ⟨TxG.later_shift g k, rfl⟩

theorem txR_ack {g : TxG} (hl : g.live) (v : UInt8) (hv : v &&& 0x10 = 0) (r g')
    (hr : txE.R g (.swrite Gen.REGIRQFLAGS2 [v]) (.unit r) g') : g.Later g' ∧ g'.irq = g.irq := by
  have hr : (if (0x3f : Nat) = 0x3f ∧ [v].length = 1 ∧ [v].headD 0 &&& 0x10 = 0 then ∃ k, g' = g.shift k else g'.poison = true) :=
    (txR_live hl _ _ _).mp hr
  rw [if_pos ⟨rfl, rfl, hv⟩] at hr
  obtain ⟨k, rfl⟩ := hr
  exact ⟨TxG.later_shift g k, rfl⟩

theorem txR_fifo_err {g : TxG} (hl : g.live) (d : List UInt8) (c g')
    (hr : txE.R g (.bwrite Gen.REGFIFO d) (.unit (.error c)) g') : g.Later g' ∧ g'.irq = g.irq := by
  obtain ⟨k, rfl⟩ := (txR_live hl _ _ _).mp hr
  exact ⟨TxG.later_shift g k, rfl⟩

theorem txR_fifo_ok {g : TxG} (hl : g.live) (hc : g.Conserved) (d : List UInt8) (hroom : g.fifo.length + d.length ≤ 64) (u g')
    (hr : txE.R g (.bwrite Gen.REGFIFO d) (.unit (.ok u)) g') :
    g'.live ∧ g'.Conserved ∧ g'.handed = g.handed ++ d ∧ g'.cbs = g.cbs ∧ g'.irq = g.irq := by
  obtain ⟨k, rfl⟩ := (txR_live hl _ _ _).mp hr
  have hlen : (g.shift k).fifo.length + d.length ≤ 64 := by
    have := (TxG.later_shift g k).len; omega
  have hcs := TxG.put_conserved (TxG.shift_conserved hc k) d
  unfold TxG.put at *
  rw [if_pos hlen] at *
  exact ⟨⟨hl.1, hl.2⟩, hcs, rfl, rfl, rfl⟩

end Sx
