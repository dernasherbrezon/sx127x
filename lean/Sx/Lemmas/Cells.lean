import Sx.Lemmas.Wp
/-
  Register-file view of the chip for configuration calls (C09): reads and writes of *plain*
  addresses (no side effect in the selected page, not the page selector) act on `cell`/`setCell`,
  and a configuration call is a list of bit-field updates.
-/
namespace Sx
open Mem Chip Sx.Model DM

namespace Chip

/-- an address whose read returns the stored byte and whose write stores the byte, in the page
    currently selected, and that does not select the page -/
def plain (c : Chip) (a : Nat) : Prop :=
  2 ≤ a ∧ a < 128 ∧ ¬(c.isLora = true ∧ a = 0x12) ∧ ¬(c.isLora = false ∧ (a = 0x3e ∨ a = 0x3f))

instance (c : Chip) (a : Nat) : Decidable (c.plain a) := by unfold plain; exact inferInstance

theorem read_plain (c : Chip) (a : Nat) (hp : c.plain a) : c.read a = (c.cell a, c) := by
  obtain ⟨h2, h128, _, hf⟩ := hp
  have hm : a % 128 = a := Nat.mod_eq_of_lt h128
  have h0 : a % 128 ≠ 0 := by omega
  rw [read_nonzero a h0, hm]
  unfold peek
  have : ¬(a = 0x3f ∧ (!c.isLora) = true) := by
    intro ⟨e, hl⟩
    exact hf ⟨by simpa using hl, Or.inr e⟩
  rw [if_neg this]

theorem readN_plain (c : Chip) (a : Nat) (hp : c.plain a) : c.readN a 1 = ([c.cell a], c) := by
  simp [readN, read_plain c a hp]

theorem write_plain (c : Chip) (a : Nat) (v : UInt8) (hp : c.plain a) : c.write a v = c.setCell a v := by
  obtain ⟨h2, h128, hl, hf⟩ := hp
  have hm : a % 128 = a := Nat.mod_eq_of_lt h128
  have h0 : a ≠ 0 := by omega
  unfold write
  simp only [hm, h0, ↓reduceIte]
  have h1 : ¬(c.isLora = true ∧ a = 0x12) := hl
  have h2' : ¬((!c.isLora) = true ∧ a = 0x3e) := fun ⟨x, y⟩ => hf ⟨by simpa using x, Or.inl y⟩
  have h3 : ¬((!c.isLora) = true ∧ a = 0x3f) := fun ⟨x, y⟩ => hf ⟨by simpa using x, Or.inr y⟩
  rw [if_neg h1, if_neg h2', if_neg h3]

theorem plain_setCell (c : Chip) (a b : Nat) (v : UInt8) (h1 : a ≠ 1) : (c.setCell a v).plain b ↔ c.plain b := by
  unfold plain
  rw [isLora_setCell c a v h1]

theorem buf_setCell (c : Chip) (a : Nat) (v : UInt8) : (c.setCell a v).buf = c.buf := by
  unfold setCell; split <;> (try split) <;> rfl
theorem fifo_setCell (c : Chip) (a : Nat) (v : UInt8) : (c.setCell a v).fifo = c.fifo := by
  unfold setCell; split <;> (try split) <;> rfl

theorem other_page_setCell (c : Chip) (a : Nat) (v : UInt8) :
    (c.isLora = true → (c.setCell a v).fsk = c.fsk) ∧ (c.isLora = false → (c.setCell a v).lora = c.lora) := by
  unfold setCell
  constructor <;> intro hl <;> split <;> simp [hl]

end Chip

/-- one bit field of one register: the bits the call owns and the value it puts there -/
structure Field where
  reg : Nat
  mask : UInt8      -- the bits of the field
  value : UInt8     -- the encoding of the argument, positioned inside the field
  deriving Repr, DecidableEq

def Chip.setField (c : Chip) (f : Field) : Chip := c.setCell f.reg ((c.cell f.reg &&& ~~~ f.mask) ||| f.value)

def Chip.setFields (c : Chip) (fs : List Field) : Chip := fs.foldl Chip.setField c

/-- a field a call may legitimately own: a plain register, the value inside the field -/
def Field.Ok (c : Chip) (f : Field) : Prop := c.plain f.reg ∧ f.value &&& ~~~ f.mask = 0

theorem toBitVec_and_not {v m : UInt8} (h : v &&& ~~~ m = 0) : v.toBitVec &&& ~~~ m.toBitVec = 0 := by
  simpa using congrArg UInt8.toBitVec h

theorem and_or_field (x m v : UInt8) (hv : v &&& ~~~ m = 0) : ((x &&& ~~~ m) ||| v) &&& m = v := by
  have : ∀ x m v : BitVec 8, v &&& ~~~ m = 0 → ((x &&& ~~~ m) ||| v) &&& m = v := by
    intro x m v h
    ext i
    have hi := congrArg (fun w => w[i]) h
    simp at hi ⊢
    cases hx : x[i] <;> cases hm : m[i] <;> cases hvv : v[i] <;> simp_all
  apply UInt8.toBitVec_inj.mp
  simpa using this x.toBitVec m.toBitVec v.toBitVec (toBitVec_and_not hv)

theorem and_or_keep_sup (x m v M : UInt8) (hv : v &&& ~~~ m = 0) (hsub : m &&& ~~~ M = 0) :
    ((x &&& ~~~ m) ||| v) &&& ~~~ M = x &&& ~~~ M := by
  have : ∀ x m v M : BitVec 8, v &&& ~~~ m = 0 → m &&& ~~~ M = 0 → ((x &&& ~~~ m) ||| v) &&& ~~~ M = x &&& ~~~ M := by
    intro x m v M h1 h2
    ext i
    have hi := congrArg (fun w => w[i]) h1
    have hj := congrArg (fun w => w[i]) h2
    simp at hi hj ⊢
    cases hx : x[i] <;> cases hm : m[i] <;> cases hvv : v[i] <;> cases hMM : M[i] <;> simp_all
  apply UInt8.toBitVec_inj.mp
  simpa using this x.toBitVec m.toBitVec v.toBitVec M.toBitVec (toBitVec_and_not hv) (toBitVec_and_not hsub)

theorem and_or_keep (x m v : UInt8) (hv : v &&& ~~~ m = 0) : ((x &&& ~~~ m) ||| v) &&& ~~~ m = x &&& ~~~ m :=
  and_or_keep_sup x m v m hv (u8_and_not_self m)

theorem setField_frame (c : Chip) (wf : c.WF) (f : Field) (hok : f.Ok c) :
    (c.setField f).cell f.reg &&& ~~~ f.mask = c.cell f.reg &&& ~~~ f.mask ∧
    (c.setField f).cell f.reg &&& f.mask = f.value ∧
    (∀ b, b ≠ f.reg → (c.setField f).cell b = c.cell b) ∧
    (c.setField f).isLora = c.isLora ∧ (c.setField f).buf = c.buf ∧ (c.setField f).fifo = c.fifo ∧
    (c.setField f).WF := by
  obtain ⟨hp, hv⟩ := hok
  have h1 : f.reg ≠ 1 := by have := hp.1; omega
  unfold Chip.setField
  refine ⟨?_, ?_, ?_, isLora_setCell _ _ _ h1, buf_setCell _ _ _, fifo_setCell _ _ _, wf_setCell _ wf _ _⟩
  · rw [cell_setCell_same c wf _ _ hp.2.1]; exact and_or_keep _ _ _ hv
  · rw [cell_setCell_same c wf _ _ hp.2.1]; exact and_or_field _ _ _ hv
  · intro b hb; exact cell_setCell_ne c _ b _ (Ne.symm hb) (.inl h1)

theorem Field.Ok_setField {c : Chip} {f g : Field} (hf : f.Ok c) (hg : g.Ok c) : g.Ok (c.setField f) := by
  have h1 : f.reg ≠ 1 := by have := hf.1.1; omega
  exact ⟨(plain_setCell c _ _ _ h1).mpr hg.1, hg.2⟩

/-- **Frame rule for a configuration call.** After a list of field updates on plain registers,
    with each value inside its field: in every register `b`, every bit outside a mask `M` that
    covers the listed fields of `b` has its previous value (`M = 0` when `b` is not listed: the
    whole register is unchanged); the page selection, the LoRa buffer and the FIFO are untouched. -/
theorem setFields_frame (fs : List Field) (c : Chip) (wf : c.WF) (hok : ∀ f ∈ fs, f.Ok c) (b : Nat) (M : UInt8)
    (hM : ∀ f ∈ fs, f.reg = b → f.mask &&& ~~~ M = 0) :
    (c.setFields fs).cell b &&& ~~~ M = c.cell b &&& ~~~ M ∧
    (c.setFields fs).isLora = c.isLora ∧ (c.setFields fs).buf = c.buf ∧ (c.setFields fs).fifo = c.fifo ∧
    (c.setFields fs).WF := by
  induction fs generalizing c with
  | nil => exact ⟨rfl, rfl, rfl, rfl, wf⟩
  | cons f rest ih =>
    have hf := hok f (List.mem_cons_self)
    obtain ⟨k1, k2, k3, k4, k5, k6, k7⟩ := setField_frame c wf f hf
    have hok' : ∀ g ∈ rest, g.Ok (c.setField f) := fun g hg => Field.Ok_setField hf (hok g (List.mem_cons_of_mem _ hg))
    obtain ⟨j1, j2, j3, j4, j5⟩ := ih (c.setField f) k7 hok' (fun g hg => hM g (List.mem_cons_of_mem _ hg))
    show ((c.setField f).setFields rest).cell b &&& ~~~ M = _ ∧ ((c.setField f).setFields rest).isLora = _ ∧
      ((c.setField f).setFields rest).buf = _ ∧ ((c.setField f).setFields rest).fifo = _ ∧ ((c.setField f).setFields rest).WF
    refine ⟨?_, j2.trans k4, j3.trans k5, j4.trans k6, j5⟩
    rw [j1]
    by_cases hb : b = f.reg
    · subst hb
      have h1 : f.reg ≠ 1 := by have := hf.1.1; omega
      unfold Chip.setField
      rw [cell_setCell_same c wf _ _ hf.1.2.1]
      exact and_or_keep_sup _ _ _ _ hf.2 (hM f List.mem_cons_self rfl)
    · rw [k3 b hb]

theorem wp_rread_plain (reg : Nat) (h : Handle) (c : Chip) (bus : List BusEv) (cbs : List CbEvent)
    (Q : Except Code UInt8 → Handle → PState → Prop) (hp : c.plain reg) :
    wp (rread reg) h ⟨c, bus, cbs⟩ Q ↔ Q (.ok (c.cell reg)) h ⟨c, .r reg 1 (.ok (be32 [c.cell reg])) :: bus, cbs⟩ := by
  rw [wp_rread]
  simp only [readN_plain _ _ hp, be32_single]

theorem wp_swrite1_plain (reg : Nat) (v : UInt8) (h : Handle) (c : Chip) (bus : List BusEv) (cbs : List CbEvent)
    (Q : Except Code Unit → Handle → PState → Prop) (hp : c.plain reg) :
    wp (swrite reg [v]) h ⟨c, bus, cbs⟩ Q ↔ Q (.ok ()) h ⟨c.setCell reg v, .w reg [v] (.ok ()) :: bus, cbs⟩ := by
  rw [wp_swrite]
  simp only [writeN_one, write_plain _ _ _ hp]

theorem wp_appendRegister_plain (reg : Nat) (v m : UInt8) (h : Handle) (c : Chip) (bus : List BusEv) (cbs : List CbEvent)
    (Q : Except Code Unit → Handle → PState → Prop) (hp : c.plain reg) :
    wp (appendRegister reg v m) h ⟨c, bus, cbs⟩ Q ↔
      Q (.ok ()) h ⟨c.setCell reg ((c.cell reg &&& m) ||| v),
        .w reg [(c.cell reg &&& m) ||| v] (.ok ()) :: .r reg 1 (.ok (be32 [c.cell reg])) :: bus, cbs⟩ := by
  unfold appendRegister
  rw [wp_bind, wp_rread_plain _ _ _ _ _ _ hp]
  simp only
  rw [wp_swrite1_plain _ _ _ _ _ _ _ hp]

theorem plain_fsk (c : Chip) (hl : c.isLora = false) (a : Nat) (h : 2 ≤ a ∧ a < 128 ∧ a ≠ 0x3e ∧ a ≠ 0x3f) : c.plain a :=
  ⟨h.1, h.2.1, by simp [hl], by simp [hl, h.2.2.1, h.2.2.2]⟩

theorem plain_lora (c : Chip) (hl : c.isLora = true) (a : Nat) (h : 2 ≤ a ∧ a < 128 ∧ a ≠ 0x12) : c.plain a :=
  ⟨h.1, h.2.1, by simp [h.2.2], by simp [hl]⟩

theorem plain_shared (c : Chip) (a : Nat) (h : 2 ≤ a ∧ a < 128 ∧ a ≠ 0x12 ∧ a ≠ 0x3e ∧ a ≠ 0x3f) : c.plain a :=
  ⟨h.1, h.2.1, by simp [h.2.2.1], by simp [h.2.2.2.1, h.2.2.2.2]⟩

theorem plain_set (c : Chip) (a b : Nat) (v : UInt8) (h1 : a ≠ 1) (hp : c.plain b) : (c.setCell a v).plain b :=
  (plain_setCell c a b v h1).mpr hp

theorem full_write (y x : UInt8) : y &&& ~~~255 ||| x = x := by
  rw [and_not_ff, UInt8.zero_or]

theorem wp_swrite2_plain (reg : Nat) (v w : UInt8) (h : Handle) (c : Chip) (bus : List BusEv) (cbs : List CbEvent)
    (Q : Except Code Unit → Handle → PState → Prop) (hp : c.plain reg) (hp2 : c.plain (reg + 1)) :
    wp (swrite reg [v, w]) h ⟨c, bus, cbs⟩ Q ↔
      Q (.ok ()) h ⟨(c.setCell reg v).setCell (reg + 1) w, .w reg [v, w] (.ok ()) :: bus, cbs⟩ := by
  rw [wp_swrite]
  have h0 : reg ≠ 0 := by have := hp.1; omega
  have h1 : reg ≠ 1 := by have := hp.1; omega
  simp only [writeN_two _ _ _ _ h0, write_plain _ _ _ hp, write_plain _ _ _ (plain_set c reg (reg + 1) v h1 hp2)]

theorem wp_swrite3_plain (reg : Nat) (v w x : UInt8) (h : Handle) (c : Chip) (bus : List BusEv) (cbs : List CbEvent)
    (Q : Except Code Unit → Handle → PState → Prop) (hp : c.plain reg) (hp2 : c.plain (reg + 1)) (hp3 : c.plain (reg + 2)) :
    wp (swrite reg [v, w, x]) h ⟨c, bus, cbs⟩ Q ↔
      Q (.ok ()) h ⟨((c.setCell reg v).setCell (reg + 1) w).setCell (reg + 2) x, .w reg [v, w, x] (.ok ()) :: bus, cbs⟩ := by
  rw [wp_swrite]
  have h0 : reg ≠ 0 := by have := hp.1; omega
  have h1 : reg ≠ 1 := by have := hp.1; omega
  have h2 : reg + 1 ≠ 1 := by omega
  have h3 : reg + 1 ≠ 0 := by omega
  simp only [writeN, h0, h3, ↓reduceIte, write_plain _ _ _ hp, write_plain _ _ _ (plain_set c reg (reg + 1) v h1 hp2),
    write_plain _ _ _ (plain_set _ (reg + 1) (reg + 1 + 1) w h2 (plain_set c reg (reg + 1 + 1) v h1 hp3))]

/-- discharge `(… .setCell …).plain a` from the page of the chip -/
macro "plain_tac" : tactic => `(tactic| (
  repeat (refine plain_set _ _ _ _ (by decide) ?_)
  first
  | exact plain_shared _ _ (by decide)
  | exact plain_fsk _ (by assumption) _ (by decide)
  | exact plain_lora _ (by assumption) _ (by decide)))

/-- symbolic execution of a configuration call over plain registers -/
macro "c09_run" : tactic => `(tactic| repeat (first
  | (rw [wp_appendRegister_plain]; case hp => plain_tac)
  | (rw [wp_swrite1_plain]; case hp => plain_tac)
  | (rw [wp_swrite2_plain]; (case hp => plain_tac); (case hp2 => plain_tac))
  | (rw [wp_swrite3_plain]; (case hp => plain_tac); (case hp2 => plain_tac); (case hp3 => plain_tac))
  | (rw [wp_rread_plain]; case hp => plain_tac)
  | rw [wp_modH] | rw [wp_pure] | rw [wp_bind]
  | dsimp only))

/-- the final chip is the list of field updates -/
macro "c09_fields" : tactic => `(tactic| (
  (try simp only [Chip.setFields, List.foldl, Chip.setField, full_write])
  (try rfl)
  done))

/-- the fields of a burst write of whole registers starting at `reg` -/
def regFields : Nat → List UInt8 → List Field
  | _, [] => []
  | reg, b :: bs => ⟨reg, 0xff, b⟩ :: regFields (reg + 1) bs

theorem writeN_regFields (d : List UInt8) (c : Chip) (reg : Nat)
    (hp : ∀ i, i < d.length → c.plain (reg + i)) : c.writeN reg d = c.setFields (regFields reg d) := by
  induction d generalizing c reg with
  | nil => rfl
  | cons b bs ih =>
    have hp0 : c.plain reg := hp 0 (by simp)
    have h0 : reg ≠ 0 := by have := hp0.1; omega
    have h1 : reg ≠ 1 := by have := hp0.1; omega
    unfold Chip.writeN regFields
    rw [if_neg h0, write_plain _ _ _ hp0]
    show _ = (c.setField ⟨reg, 0xff, b⟩).setFields (regFields (reg + 1) bs)
    have : c.setField ⟨reg, 0xff, b⟩ = c.setCell reg b := by
      unfold Chip.setField; simp only [full_write]
    rw [this]
    apply ih
    intro i hi
    have := hp (i + 1) (by simp; omega)
    rw [show reg + 1 + i = reg + (i + 1) by omega]
    exact plain_set c reg _ b h1 this

theorem readN_plain3 (c : Chip) (a : Nat) (h0 : c.plain a) (h1 : c.plain (a + 1)) (h2 : c.plain (a + 2)) :
    c.readN a 3 = ([c.cell a, c.cell (a + 1), c.cell (a + 2)], c) := by
  have ha : a ≠ 0 := by have := h0.1; omega
  have ha1 : a + 1 ≠ 0 := by omega
  simp [readN, read_plain c a h0, read_plain c (a + 1) h1, read_plain c (a + 1 + 1) h2, ha]

end Sx
