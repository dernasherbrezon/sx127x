import Sx.Lemmas.RxLevel
import Sx.Lemmas.IrqBits
/- The payload-ready path of `read_payload_batch`: the byte-wise drain (`drain_spec`) and `batch_ready`, which leaves the
   whole payload in the buffer (`RxDone`) or a failed transfer behind (`RxFail`). -/
namespace Sx
open Sx.Model DM

theorem adv_over {g g1 : RxG} (hw : g.Wf) (ho : g.over = true) (ha : g.Adv g1) :
    g1.over = true ∧ g1.fifo = g.fifo ∧ g1.pending = [] := by
  obtain ⟨hw1, _, _, hov, _, _⟩ := ha.facts hw
  obtain ⟨ho1, _, _, hf⟩ := hov ho
  exact ⟨ho1, hf, hw1.overPending ho1⟩

/-- what holds when a transfer has failed while the rest of a complete packet was being read -/
structure RxFail (g g' : RxG) : Prop where
  wf : g'.Wf
  live : g'.live
  over : g'.over = true
  same : g.Same g'
  faulted : g'.faulted = true

theorem advF_over {hdr P g g'} (hi : RxGI hdr P g) (ho : g.over = true) (ha : g.AdvF g') : RxFail g g' :=
  have hf := Fwd.of_advF hi ha
  ⟨hf.1.gi.wf, hf.1.gi.live, hf.1.over ho, hf.1.same, hf.2⟩

theorem RxFail.trans {a b c : RxG} (h1 : a.Same b) (h2 : RxFail b c) : RxFail a c :=
  ⟨h2.wf, h2.live, h2.over, h1.trans h2.same, h2.faulted⟩

/-- what `read_payload_batch(false)` leaves behind: the whole payload in the buffer -/
structure RxDone (P : List UInt8) (h h' : Handle) : Prop where
  exp : h'.expected.toNat = P.length
  data : h'.packet.take P.length = P
  cb : h'.rxCb = h.rxCb
  crc : h'.crcType = h.crcType
  len : h'.packet.length = h.packet.length

theorem RxDone.trans {P : List UInt8} {a b c : Handle} (hd : RxDone P b c) (hcb : b.rxCb = a.rxCb) (hcr : b.crcType = a.crcType)
    (hl : b.packet.length = a.packet.length) : RxDone P a c :=
  ⟨hd.exp, hd.data, hd.cb.trans hcb, hd.crc.trans hcr, hd.len.trans hl⟩

/-- the byte-wise drain: once the end of the packet has been signalled the FIFO holds exactly the
    rest of the payload, so FifoEmpty is read as set exactly after the last byte -/
theorem drain_spec (hdr P : List UInt8) : ∀ (fuel : Nat) (h : Handle) (g : RxG), RxGI hdr P g → g.over = true →
    PhaseB hdr P h g → h.received.toNat < P.length → P.length ≤ h.packet.length → P.length < 65536 →
    P.length - h.received.toNat ≤ fuel →
    DM.gwp rxE (drainLoop fuel) h g (fun g' r h' =>
      (r = .ok () ∧ RxDone P h h' ∧ g'.live ∧ g.Same g' ∧ g'.fifo = [] ∧ g'.pending = []) ∨ (∃ c, r = .error c ∧ RxFail g g')) := by
  intro fuel
  induction fuel with
  | zero => intro h g _ _ _ hlt _ _ hf; omega
  | succ fuel ih =>
    intro h g hi ho hB hlt hcap h16 hf
    unfold drainLoop
    rw [gwp_bind, gwp_getH]
    dsimp only
    rw [if_neg (by omega), gwp_bind]
    refine gwp_rx_fifo hi.live (fun ce _ hf => Or.inr ⟨ce, rfl, advF_over hi ho hf⟩) fun v g0 ha0 hv => ?_
    have f0 := Fwd.of_adv hi ha0
    obtain ⟨ho0, hf0, hp0⟩ := adv_over hi.wf ho ha0
    have hB0 : PhaseB hdr P h g0 := hB.of_eq rfl rfl rfl f0.taken
    have hrest : g0.fifo = P.drop h.received.toNat := by
      have := hB0.rest f0.gi
      rw [hp0, List.append_nil] at this; exact this
    have hl1 : 1 ≤ g0.fifo.length := by rw [hrest, List.length_drop]; omega
    have hsum : (h.received + 1).toNat = h.received.toNat + 1 := by
      rw [UInt16.toNat_add]; show (h.received.toNat + 1) % 65536 = _; omega
    have hi2 := f0.gi.take hl1
    have hB2 : PhaseB hdr P { h with packet := h.packet.wr h.received.toNat v, received := h.received + 1 } (g0.take 1) := by
      have := hB0.advance f0.gi hl1 (by omega) _ hsum
      rw [← hv hl1] at this; exact this
    obtain ⟨_, hs2, _, hfifo2, _, hover2, _⟩ := RxG.take_facts g0 1 hl1 f0.gi.wf
    have ho2 : (g0.take 1).over = true := by rw [hover2]; exact ho0
    dsimp only
    rw [gwp_bind, gwp_packetStore]
    refine ⟨by omega, ?_⟩
    dsimp only
    rw [gwp_bind, gwp_modH]
    dsimp only
    rw [gwp_bind]
    refine gwp_rx_flags hi2.live (fun ce _ hf => Or.inr ⟨ce, rfl, RxFail.trans (f0.same.trans hs2) (advF_over hi2 ho2 hf)⟩)
      fun v3 g2 ha2 hfl => ?_
    have f2 := Fwd.of_adv hi2 ha2
    obtain ⟨ho2', hf2, hp2⟩ := adv_over hi2.wf ho2 ha2
    have hs03 : g.Same { g2 with irq := v3 } := ((f0.same.trans hs2).trans f2.same).trans (RxG.Same.irq g2 v3)
    have hfifo3 : g2.fifo = P.drop (h.received.toNat + 1) := by rw [hf2, hfifo2, hrest, List.drop_drop]
    have hlen3 : g2.fifo.length = P.length - (h.received.toNat + 1) := by rw [hfifo3, List.length_drop]
    dsimp only
    simp only [irq_bits]
    by_cases hz : v3 &&& 0x40 = 0
    · rw [if_pos hz]
      have hne : g2.fifo.length ≠ 0 := fun he => hfl.empty.mpr (List.eq_nil_of_length_eq_zero he) hz
      refine gwp_mono rxE _ _ _ _ _ ?_ (ih _ _ (f2.gi.irq v3) ho2' (hB2.of_eq rfl rfl rfl f2.taken)
        (by show (h.received + 1).toNat < _; rw [hsum]; omega) (by show P.length ≤ (h.packet.wr _ _).length; simp; exact hcap) h16
        (by show P.length - (h.received + 1).toNat ≤ fuel; rw [hsum]; omega))
      intro g' r h' hpost
      rcases hpost with ⟨hr, hd, hl, hsm, hff, hpp⟩ | ⟨ce, hre, hfl'⟩
      · exact Or.inl ⟨hr, hd.trans rfl rfl (by simp), hl, hs03.trans hsm, hff, hpp⟩
      · exact Or.inr ⟨ce, hre, RxFail.trans hs03 hfl'⟩
    · rw [if_neg hz, gwp_pure]
      have he : g2.fifo = [] := hfl.empty.mp hz
      have hall : (h.received + 1).toNat = P.length := by rw [he, List.length_nil] at hlen3; omega
      have hst := hB2.stored
      rw [hall] at hst
      exact Or.inl ⟨rfl, ⟨hB2.exp, by rw [hst, List.take_length], rfl, rfl, by simp⟩, f2.gi.live, hs03, he, hp2⟩

/-- `read_payload_batch(false)`: the payload-ready path takes everything that is left.  The drain needs
    one pass per byte in the FIFO and one to see it empty; the FIFO holds at most 63 (`Wf.room`), hence `64 ≤ fuel`. -/
theorem batch_ready (fuel : Nat) (hfuel : 64 ≤ fuel) (hdr P : List UInt8) (h : Handle) (g : RxG)
    (hc : RxCfg hdr P h g) (hi : RxGI hdr P g) (hph : RxPhase hdr P h g) (ho : g.over = true) :
    DM.gwp rxE (fskOokReadPayloadBatch fuel false) h g (fun g' r h' =>
      (r = .ok () ∧ RxDone P h h' ∧ g'.live ∧ g.Same g' ∧ g'.fifo = [] ∧ g'.pending = []) ∨ (∃ c, r = .error c ∧ RxFail g g')) := by
  unfold fskOokReadPayloadBatch
  rw [gwp_bind]
  have hpend : g.pending = [] := hi.wf.overPending ho
  refine gwp_mono rxE _ _ _ _ _ ?_ (header_any hdr P h g hc hi hph (fun htk => by
    have := congrArg List.length hi.stream
    rw [htk, hpend] at this; simp at this; omega))
  intro g1 r1 h1 hpost1
  rcases hpost1 with ⟨c, hr1, hB, hh1, hi1, _, hs1, _, hov1⟩ | ⟨ce, hre, _, hfe, hfl⟩
  case inr =>
    subst hre
    exact Or.inr ⟨ce, rfl, ⟨hfe.gi.wf, hfe.gi.live, hfe.over ho, hfe.same, hfl⟩⟩
  subst hr1
  have ho1 := hov1 ho
  have hp1 : g1.pending = [] := hi1.wf.overPending ho1
  have hrest : g1.fifo = P.drop h1.received.toNat := by
    have := hB.rest hi1
    rw [hp1, List.append_nil] at this; exact this
  dsimp only
  rw [gwp_bind, gwp_getH]
  dsimp only
  have hcap1 : P.length ≤ h1.packet.length := by subst hh1; exact hc.fits
  have hdone : ∀ {h'}, RxDone P h1 h' → RxDone P h h' := by subst hh1; exact fun hd => hd.trans rfl rfl rfl
  by_cases heq : h1.expected = h1.received
  · rw [if_pos heq, gwp_pure]
    have hr : h1.received.toNat = P.length := by rw [← heq]; exact hB.exp
    have hst := hB.stored
    rw [hr] at hst
    refine Or.inl ⟨rfl, hdone ⟨hB.exp, hst.trans (List.take_length), rfl, rfl, rfl⟩, hi1.live, hs1, ?_, hp1⟩
    rw [hrest, hr, List.drop_length]
  rw [if_neg heq, if_neg (by rw [hB.exp]; omega)]
  simp only [Bool.false_eq_true, if_false]
  have hlt : h1.received.toNat < P.length := by
    rcases Nat.lt_or_ge h1.received.toNat P.length with h' | h'
    · exact h'
    · exact absurd (UInt16.toNat_inj.mp (by rw [hB.exp]; have := hB.rcv; omega)) heq
  by_cases hsc : h1.received = 0 ∧ h1.expected.toNat ≤ Gen.FIFO_SIZE_FSK - c
  · -- the whole payload in one transfer
    rw [if_pos hsc]
    have hr0 : h1.received.toNat = 0 := by rw [hsc.1]; rfl
    rw [hB.exp, if_pos hcap1, gwp_bind]
    refine gwp_rx_bread hi1.live _ (fun ce _ hf => Or.inr ⟨ce, rfl, RxFail.trans hs1 (advF_over hi1 ho1 hf)⟩)
      fun d g2 ha2 _ hdv => ?_
    have f2 := Fwd.of_adv hi1 ha2
    obtain ⟨_, hf2, hp2⟩ := adv_over hi1.wf ho1 ha2
    have hfP : g2.fifo = P := by rw [hf2, hrest, hr0]; rfl
    have hn : P.length ≤ g2.fifo.length := by rw [hfP]; exact Nat.le_refl _
    have hd : d = P := by rw [hdv hn, hfP, List.take_length]
    subst hd
    obtain ⟨_, hs3, _, hfifo3, hpend3, _, _⟩ := RxG.take_facts g2 d.length hn f2.gi.wf
    dsimp only
    rw [gwp_bind, gwp_packetCopy]
    refine ⟨by omega, ?_⟩
    dsimp only
    rw [gwp_modH]
    refine Or.inl ⟨rfl, hdone ⟨hB.exp, wrs_take _ _ hcap1, rfl, rfl, by simp⟩, hs3.live f2.gi.live, (hs1.trans f2.same).trans hs3, ?_, hpend3.trans hp2⟩
    rw [hfifo3, hfP, List.drop_length]
  · rw [if_neg hsc]
    have hroom := hi1.wf.room
    have hfl : g1.fifo.length = P.length - h1.received.toNat := by rw [hrest, List.length_drop]
    refine gwp_mono rxE _ _ _ _ _ ?_ (drain_spec hdr P fuel h1 g1 hi1 ho1 hB hlt hcap1 hc.p16 (by omega))
    intro g' r h' hpost
    rcases hpost with ⟨hr, hd, hl, hsm, hff, hpp⟩ | ⟨ce, hre, hfl'⟩
    · exact Or.inl ⟨hr, hdone hd, hl, hs1.trans hsm, hff, hpp⟩
    · exact Or.inr ⟨ce, hre, RxFail.trans hs1 hfl'⟩

end Sx
