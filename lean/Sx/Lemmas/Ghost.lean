import Sx.Lemmas.Req
import Sx.Model.Driver
/-
  A weakest-precondition calculus for driver programs against an *abstract environment*.

  The environment is a ghost state `G` with a relation `R g q ans g'` saying which answers
  `ans` the world may give to request `q` in ghost state `g` (values and failures), and to which
  ghost states that may lead; `C` does the same for what the application may do to the handle
  inside a callback.  `p.gwp E g Q` then says: against *every* behaviour the environment admits,
  `p` reaches no undefined behaviour and ends in a ghost state and result satisfying `Q`.

  With `R := fun _ _ _ _ => True` this is a demonic calculus over all answers; with a relation
  that describes a FIFO being drained or filled by the radio between any two transfers it
  quantifies over all admissible schedules.  `execG_gwp` carries a `gwp` fact to the interpreter
  (either build, any world) once the relation is shown to cover what the interpreter does.
-/
namespace Sx

inductive Ans
  | u32 (r : Except Code UInt32)
  | u8 (r : Except Code UInt8)
  | unit (r : Except Code Unit)
  | bytes (r : Except Code (List UInt8))

structure GEnv (G : Type) where
  R : G → Req → Ans → G → Prop
  C : G → CbEvent → Handle → Handle → G → Prop

variable {G : Type} {α β : Type}

def Prog.gwp (E : GEnv G) : Prog α → G → (G → α → Prop) → Prop
  | .ret a, g, Q => Q g a
  | .ub _, _, _ => False
  | .sread reg n k, g, Q => ∀ r g', E.R g (.sread reg n) (.u32 r) g' → (k r).gwp E g' Q
  | .rread reg k, g, Q => ∀ r g', E.R g (.rread reg) (.u8 r) g' → (k r).gwp E g' Q
  | .swrite reg d k, g, Q => ∀ r g', E.R g (.swrite reg d) (.unit r) g' → (k r).gwp E g' Q
  | .bwrite reg d k, g, Q => ∀ r g', E.R g (.bwrite reg d) (.unit r) g' → (k r).gwp E g' Q
  | .bread reg n k, g, Q => ∀ r g', E.R g (.bread reg n) (.bytes r) g' → (k r).gwp E g' Q
  | .rawbread reg n k, g, Q => ∀ r g', E.R g (.rawbread reg n) (.bytes r) g' → (k r).gwp E g' Q
  | .callback e h k, g, Q => ∀ h' g', E.C g e h h' g' → (k h').gwp E g' Q

theorem Prog.gwp_bind (E : GEnv G) (p : Prog α) (f : α → Prog β) (g : G) (Q : G → β → Prop) :
    (p.bind f).gwp E g Q ↔ p.gwp E g (fun g' a => (f a).gwp E g' Q) := by
  induction p generalizing g with
  | ret a => exact Iff.rfl
  | ub u => exact Iff.rfl
  | _ =>
    -- a request (or callback) node: the same quantifiers on both sides, then its continuation
    rename_i ih
    exact forall_congr' fun r => forall_congr' fun g' => imp_congr_right fun _ => ih r g'

theorem Prog.gwp_mono (E : GEnv G) (p : Prog α) (g : G) (Q Q' : G → α → Prop)
    (hq : ∀ g a, Q g a → Q' g a) (hp : p.gwp E g Q) : p.gwp E g Q' := by
  induction p generalizing g with
  | ret a => exact hq _ _ hp
  | ub u => exact hp
  | _ =>
    rename_i ih
    exact fun r g' hr => ih r g' (hp r g' hr)

def DM.gwp (E : GEnv G) (x : DM α) (h : Handle) (g : G) (Q : G → Except Code α → Handle → Prop) : Prop :=
  (x h).gwp E g (fun g' rh => Q g' rh.1 rh.2)

namespace DM
variable (E : GEnv G)

theorem gwp_pure (a : α) (h g Q) : gwp E (pure a : DM α) h g Q ↔ Q g (.ok a) h := Iff.rfl
theorem gwp_pure' (a : α) (h g Q) : gwp E (pure' a : DM α) h g Q ↔ Q g (.ok a) h := Iff.rfl
theorem gwp_fail (c : Code) (h g) (Q : G → Except Code α → Handle → Prop) : gwp E (fail c : DM α) h g Q ↔ Q g (.error c) h := Iff.rfl
theorem gwp_ub (u : UB) (h g) (Q : G → Except Code α → Handle → Prop) : gwp E (DM.ub u : DM α) h g Q ↔ False := Iff.rfl
theorem gwp_getH (h g Q) : gwp E getH h g Q ↔ Q g (.ok h) h := Iff.rfl
theorem gwp_setH (h' h g Q) : gwp E (setH h') h g Q ↔ Q g (.ok ()) h' := Iff.rfl
theorem gwp_modH (f h g Q) : gwp E (modH f) h g Q ↔ Q g (.ok ()) (f h) := Iff.rfl
theorem gwp_cb (e h g Q) : gwp E (cb e) h g Q ↔ ∀ h' g', E.C g e h h' g' → Q g' (.ok ()) h' := Iff.rfl
theorem gwp_rread (reg h g Q) : gwp E (rread reg) h g Q ↔ ∀ r g', E.R g (.rread reg) (.u8 r) g' → Q g' r h := Iff.rfl
theorem gwp_sread (reg n h g Q) : gwp E (sread reg n) h g Q ↔ ∀ r g', E.R g (.sread reg n) (.u32 r) g' → Q g' r h := Iff.rfl
theorem gwp_swrite (reg d h g Q) : gwp E (swrite reg d) h g Q ↔ ∀ r g', E.R g (.swrite reg d) (.unit r) g' → Q g' r h := Iff.rfl
theorem gwp_bwrite (reg d h g Q) : gwp E (bwrite reg d) h g Q ↔ ∀ r g', E.R g (.bwrite reg d) (.unit r) g' → Q g' r h := Iff.rfl
theorem gwp_bread (reg n h g Q) : gwp E (bread reg n) h g Q ↔ ∀ r g', E.R g (.bread reg n) (.bytes r) g' → Q g' r h := Iff.rfl
theorem gwp_rawbread (reg n h g Q) : gwp E (rawbread reg n) h g Q ↔ ∀ r g', E.R g (.rawbread reg n) (.bytes r) g' → Q g' r h := Iff.rfl

theorem gwp_bind (x : DM α) (f : α → DM β) (h g) (Q : G → Except Code β → Handle → Prop) :
    gwp E (x >>= f) h g Q ↔ gwp E x h g (fun g' r h' => match r with
      | .ok a => gwp E (f a) h' g' Q
      | .error c => Q g' (.error c) h') := by
  show ((x h).bind _).gwp E g _ ↔ _
  rw [Prog.gwp_bind]
  unfold gwp
  apply iff_of_eq
  congr 1
  funext g' rh
  obtain ⟨r, h'⟩ := rh
  cases r <;> rfl

theorem gwp_attempt (x : DM α) (h g) (Q : G → Except Code (Except Code α) → Handle → Prop) :
    gwp E (attempt x) h g Q ↔ gwp E x h g (fun g' r h' => Q g' (.ok r) h') := by
  show ((x h).bind _).gwp E g _ ↔ _
  rw [Prog.gwp_bind]
  exact Iff.rfl

theorem gwp_mono (x : DM α) (h g) (Q Q' : G → Except Code α → Handle → Prop)
    (hq : ∀ g r h', Q g r h' → Q' g r h') (hw : gwp E x h g Q) : gwp E x h g Q' :=
  Prog.gwp_mono E _ g _ _ (fun g a => hq g a.1 a.2) hw

theorem gwp_ite (c : Prop) [Decidable c] (x y : DM α) (h g Q) :
    gwp E (if c then x else y) h g Q ↔ (if c then gwp E x h g Q else gwp E y h g Q) := by
  split <;> rfl

theorem gwp_checkFskOok (h g) (Q : G → Except Code Unit → Handle → Prop) :
    gwp E Model.checkFskOok h g Q ↔
      if h.activeModem ≠ Gen.SX127x_MODULATION_FSK ∧ h.activeModem ≠ Gen.SX127x_MODULATION_OOK
      then Q g (.error Gen.SX127X_ERR_INVALID_STATE) h else Q g (.ok ()) h := by
  unfold Model.checkFskOok
  rw [gwp_bind, gwp_getH]
  dsimp only
  split <;> rfl

theorem gwp_packetCopy (off : Nat) (d : List UInt8) (h g Q) :
    gwp E (Model.packetCopy off d) h g Q ↔
      off + d.length ≤ h.packet.length ∧ Q g (.ok ()) { h with packet := h.packet.wrs off d } := by
  unfold Model.packetCopy
  rw [gwp_bind, gwp_getH]
  dsimp only
  split
  · rw [gwp_setH]; exact ⟨fun hq => ⟨‹_›, hq⟩, And.right⟩
  · exact ⟨False.elim, fun hq => absurd hq.1 ‹_›⟩

theorem gwp_packetStore (idx : Nat) (v : UInt8) (h g Q) :
    gwp E (Model.packetStore idx v) h g Q ↔
      idx < h.packet.length ∧ Q g (.ok ()) { h with packet := h.packet.wr idx v } := by
  unfold Model.packetStore
  rw [gwp_bind, gwp_getH]
  dsimp only
  split
  · rw [gwp_setH]; exact ⟨fun hq => ⟨‹_›, hq⟩, And.right⟩
  · exact ⟨False.elim, fun hq => absurd hq.1 ‹_›⟩

end DM

/-! ### session environments: a ghost state is dead once poisoned or ended, and a refinement
    relation of the form "dead, or the world is as `W` says" gives `W` back in a live state -/

theorem dead_of_not_live {p e : Bool} (h : ¬(p = false ∧ e = false)) : p = true ∨ e = true := by
  cases p <;> cases e <;> simp at h ⊢

theorem of_live_abs {p e : Bool} {W : Prop} (hl : p = false ∧ e = false) (ha : p = true ∨ e = true ∨ W) : W := by
  rcases ha with h | h | h
  · rw [hl.1] at h; cases h
  · rw [hl.2] at h; cases h
  · exact h

/-- the relation `abs` between worlds and ghost states is preserved by everything the
    interpreter does for a request, and `E.R` admits the answer -/
structure Covers (E : GEnv G) (cached : Bool) (onCb : CbEvent → Handle → World → Outcome Handle)
    (abs : World → G → Prop) : Prop where
  sread : ∀ w g reg n, abs w g → match Shadow.sread cached w reg n with
    | .ok r w' => ∃ g', E.R g (.sread reg n) (.u32 r) g' ∧ abs w' g'
    | .ub _ => True
  rread : ∀ w g reg, abs w g → match Shadow.rread cached w reg with
    | .ok r w' => ∃ g', E.R g (.rread reg) (.u8 r) g' ∧ abs w' g'
    | .ub _ => True
  swrite : ∀ w g reg d, abs w g → match Shadow.swrite cached w reg d with
    | .ok r w' => ∃ g', E.R g (.swrite reg d) (.unit r) g' ∧ abs w' g'
    | .ub _ => True
  bwrite : ∀ w g reg d, abs w g → match Shadow.bwrite cached w reg d with
    | .ok r w' => ∃ g', E.R g (.bwrite reg d) (.unit r) g' ∧ abs w' g'
    | .ub _ => True
  bread : ∀ w g reg n, abs w g →
    ∃ g', E.R g (.bread reg n) (.bytes (w.busReadBuf reg n).1) g' ∧ abs (w.busReadBuf reg n).2 g'
  rawbread : ∀ w g reg n, abs w g →
    ∃ g', E.R g (.rawbread reg n) (.bytes (w.busReadBuf reg n).1) g' ∧ abs (w.busReadBuf reg n).2 g'
  cb : ∀ w g e h, abs w g → match onCb e h w with
    | .done h' w' => ∃ g', E.C g e h h' g' ∧ abs w' g'
    | .ub _ _ => True

def Req.ans : (q : Req) → Except Code q.Val → Ans
  | .sread .., r => .u32 r
  | .rread _, r => .u8 r
  | .swrite .., r | .bwrite .., r => .unit r
  | .bread .., r | .rawbread .., r => .bytes r

theorem Covers.req {E : GEnv G} {cached : Bool} {onCb : CbEvent → Handle → World → Outcome Handle}
    {abs : World → G → Prop} (cov : Covers E cached onCb abs) (q : Req) {w : World} {g : G} (ha : abs w g)
    {r : Except Code q.Val} {w' : World} (hs : Shadow.step cached w q = .ok r w') :
    ∃ g', E.R g q (q.ans r) g' ∧ abs w' g' := by
  cases q with
  | sread reg n => have := cov.sread w g reg n ha; rwa [show Shadow.sread cached w reg n = _ from hs] at this
  | rread reg => have := cov.rread w g reg ha; rwa [show Shadow.rread cached w reg = _ from hs] at this
  | swrite reg d => have := cov.swrite w g reg d ha; rwa [show Shadow.swrite cached w reg d = _ from hs] at this
  | bwrite reg d => have := cov.bwrite w g reg d ha; rwa [show Shadow.bwrite cached w reg d = _ from hs] at this
  | bread reg n => cases hs; exact cov.bread w g reg n ha
  | rawbread reg n => cases hs; exact cov.rawbread w g reg n ha

theorem Covers.of_req {E : GEnv G} {cached : Bool} {onCb : CbEvent → Handle → World → Outcome Handle}
    {abs : World → G → Prop}
    (hreq : ∀ (q : Req) {w g r w'}, abs w g → Shadow.step cached w q = .ok r w' → ∃ g', E.R g q (q.ans r) g' ∧ abs w' g')
    (hcb : ∀ {w g e h h' w'}, abs w g → onCb e h w = .done h' w' → ∃ g', E.C g e h h' g' ∧ abs w' g') :
    Covers E cached onCb abs where
  sread w g reg n ha := by
    cases hs : Shadow.sread cached w reg n with
    | ok r w' => exact hreq (.sread reg n) ha hs
    | ub u => trivial
  rread w g reg ha := by
    cases hs : Shadow.rread cached w reg with
    | ok r w' => exact hreq (.rread reg) ha hs
    | ub u => trivial
  swrite w g reg d ha := by
    cases hs : Shadow.swrite cached w reg d with
    | ok r w' => exact hreq (.swrite reg d) ha hs
    | ub u => trivial
  bwrite w g reg d ha := by
    cases hs : Shadow.bwrite cached w reg d with
    | ok r w' => exact hreq (.bwrite reg d) ha hs
    | ub u => trivial
  bread w g reg n ha := hreq (.bread reg n) ha rfl
  rawbread w g reg n ha := hreq (.rawbread reg n) ha rfl
  cb w g e h ha := by
    cases ho : onCb e h w with
    | done h' w' => exact hcb ha ho
    | ub u w' => trivial

/-- `p.Runs E g g' a`: against environment `E`, started in ghost state `g`, the program can end
    with result `a` in ghost state `g'` -/
inductive Prog.Runs (E : GEnv G) : Prog α → G → G → α → Prop
  | ret (a : α) (g : G) : Runs E (.ret a) g g a
  | sread {reg n k r g g1 g' a} : E.R g (.sread reg n) (.u32 r) g1 → Runs E (k r) g1 g' a → Runs E (.sread reg n k) g g' a
  | rread {reg k r g g1 g' a} : E.R g (.rread reg) (.u8 r) g1 → Runs E (k r) g1 g' a → Runs E (.rread reg k) g g' a
  | swrite {reg d k r g g1 g' a} : E.R g (.swrite reg d) (.unit r) g1 → Runs E (k r) g1 g' a → Runs E (.swrite reg d k) g g' a
  | bwrite {reg d k r g g1 g' a} : E.R g (.bwrite reg d) (.unit r) g1 → Runs E (k r) g1 g' a → Runs E (.bwrite reg d k) g g' a
  | bread {reg n k r g g1 g' a} : E.R g (.bread reg n) (.bytes r) g1 → Runs E (k r) g1 g' a → Runs E (.bread reg n k) g g' a
  | rawbread {reg n k r g g1 g' a} : E.R g (.rawbread reg n) (.bytes r) g1 → Runs E (k r) g1 g' a → Runs E (.rawbread reg n k) g g' a
  | callback {e h k h' g g1 g' a} : E.C g e h h' g1 → Runs E (k h') g1 g' a → Runs E (.callback e h k) g g' a

theorem Prog.Runs.req {E : GEnv G} {q : Req} {k : Except Code q.Val → Prog α} {r g g1 g' a}
    (hr : E.R g q (q.ans r) g1) (hk : Runs E (k r) g1 g' a) : Runs E (Prog.req q k) g g' a := by
  cases q
  · exact .sread hr hk
  · exact .rread hr hk
  · exact .swrite hr hk
  · exact .bwrite hr hk
  · exact .bread hr hk
  · exact .rawbread hr hk

theorem Prog.gwp_runs {E : GEnv G} {p : Prog α} {g g' : G} {a : α} {Q : G → α → Prop}
    (hr : p.Runs E g g' a) (hp : p.gwp E g Q) : Q g' a := by
  induction hr with
  | ret a g => exact hp
  | _ h1 _ ih => exact ih (hp _ _ h1)

def OutcomeP (abs : World → G → Prop) (P : G → α → Prop) : Outcome α → Prop
  | .done a w' => ∃ g', abs w' g' ∧ P g' a
  | .ub _ _ => True

theorem OutcomeP.mono {abs : World → G → Prop} {P P' : G → α → Prop} {o : Outcome α}
    (ho : OutcomeP abs P o) (f : ∀ g' a, P g' a → P' g' a) : OutcomeP abs P' o := by
  cases o with
  | done a w' => obtain ⟨g', hab, hp⟩ := ho; exact ⟨g', hab, f g' a hp⟩
  | ub u w' => trivial

theorem execG_runs (E : GEnv G) (cached : Bool) (onCb : CbEvent → Handle → World → Outcome Handle)
    (abs : World → G → Prop) (cov : Covers E cached onCb abs)
    (p : Prog α) (g : G) (w : World) (ha : abs w g) :
    OutcomeP abs (fun g' a => p.Runs E g g' a) (execG cached onCb p w) := by
  induction p using Prog.req_induction generalizing w g with
  | ret a => exact ⟨g, ha, .ret a g⟩
  | ub u => trivial
  | req q k ih =>
    rw [execG_req]
    cases hs : Shadow.step cached w q with
    | ok r w' =>
      obtain ⟨g1, hr, ha'⟩ := cov.req q ha hs
      exact (ih r g1 w' ha').mono (fun _ _ hrun => .req hr hrun)
    | ub u => trivial
  | callback e h k ih =>
    simp only [execG]
    have := cov.cb w g e h ha
    cases ho : onCb e h w with
    | done h' w' =>
      rw [ho] at this; obtain ⟨g1, hr, ha'⟩ := this
      exact (ih h' g1 w' ha').mono (fun _ _ hrun => .callback hr hrun)
    | ub u w' => trivial

theorem execG_gwp' (E : GEnv G) (cached : Bool) (onCb : CbEvent → Handle → World → Outcome Handle)
    (abs : World → G → Prop) (cov : Covers E cached onCb abs)
    (p : Prog α) (g : G) (Q : G → α → Prop) (hp : p.gwp E g Q) (w : World) (ha : abs w g) :
    OutcomeP abs Q (execG cached onCb p w) :=
  (execG_runs E cached onCb abs cov p g w ha).mono (fun _ _ hrun => Prog.gwp_runs hrun hp)

/-- every execution is one of the behaviours the calculus quantifies over: if it completes, it
    ends in a world whose abstraction satisfies the postcondition.  (An operation that ends in
    undefined behaviour — possible only in the shadow arrays, C01/C19, or inside the
    application's own reaction — is the subject of C08.) -/
theorem execG_gwp (E : GEnv G) (cached : Bool) (onCb : CbEvent → Handle → World → Outcome Handle)
    (abs : World → G → Prop) (cov : Covers E cached onCb abs)
    (p : Prog α) (g : G) (Q : G → α → Prop) (hp : p.gwp E g Q) (w : World) (ha : abs w g) :
    match execG cached onCb p w with
    | .done a w' => ∃ g', abs w' g' ∧ Q g' a
    | .ub _ _ => True :=
  execG_gwp' E cached onCb abs cov p g Q hp w ha

end Sx
