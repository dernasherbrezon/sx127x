import Sx.Lemmas.Fifo
/- The FSK/OOK FIFO behind address 0 and its flush; `memcpy` into the packet buffer read back. -/
namespace Sx
open Mem Chip

theorem write_fifo_fsk (c : Chip) (v : UInt8) (hl : c.isLora = false) (hroom : c.fifo.length < 64) :
    c.write 0 v = { c with fifo := c.fifo ++ [v] } := by
  have : ¬c.fifo.length ≥ 64 := by omega
  simp [Chip.write, hl, this]

theorem writeN_fifo_fsk (d : List UInt8) : ∀ (c : Chip), c.isLora = false → c.fifo.length + d.length ≤ 64 →
    c.writeN 0 d = { c with fifo := c.fifo ++ d } := by
  induction d with
  | nil => intro c _ _; simp [Chip.writeN]
  | cons v vs ih =>
    intro c hl hlen
    simp only [List.length_cons] at hlen
    simp only [Chip.writeN, ↓reduceIte]
    rw [write_fifo_fsk c v hl (by omega)]
    rw [ih _ (by exact hl) (by simp; omega)]
    simp

/-- the chip after FifoOverrun (bit 4) was written to RegIrqFlags2: the flag cleared, the FIFO
    emptied, PayloadReady/CrcOk cleared with it -/
def flush10 (c : Chip) : Chip := Chip.fifoFlush { c with fsk := c.fsk.wr 0x3f (c.fsk.rd 0x3f &&& 0xef) }

theorem write_flush_fsk (c : Chip) (hl : c.isLora = false) : c.write 0x3f 0x10 = flush10 c := by
  have h1 : (0x10 : UInt8) &&& 0x10 ≠ 0 := by decide
  have h2 : ¬((0x10 : UInt8) &&& 0x01 ≠ 0) := by decide
  simp only [Chip.write, hl, flush10, show (0x3f % 128) = 0x3f from rfl, show ¬(0x3f = 0) by decide, ↓reduceIte,
    Bool.false_eq_true, false_and, Bool.not_false, true_and, show ¬(0x3f = 0x3e) by decide, h1, h2, ne_eq, not_false_eq_true]

theorem flush10_fifo (c : Chip) : (flush10 c).fifo = [] := rfl
theorem flush10_isLora (c : Chip) : (flush10 c).isLora = c.isLora := rfl
theorem flush10_shared (c : Chip) : (flush10 c).shared = c.shared := rfl
theorem flush10_fsk_other (c : Chip) (a : Nat) (ha : a ≠ 0x3f) : (flush10 c).fsk.rd a = c.fsk.rd a := by
  simp [flush10, Chip.fifoFlush, rd_wr_ne _ 0x3f a _ (Ne.symm ha)]

theorem isLora_fsk_upd' (c : Chip) (m : Mem) : ({ c with fsk := m } : Chip).isLora = c.isLora := rfl

end Sx
