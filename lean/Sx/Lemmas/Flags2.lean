import Sx.Chip
import Sx.Lemmas.Bits
/-
  RegIrqFlags2 of the FSK/OOK page as the chip model composes it on a read: five stored bits and
  three bits derived from the FIFO level.
-/
namespace Sx
open Chip

theorem flags2_and (c : Chip) (k : UInt8) : c.flags2 &&& k =
    c.fsk.rd 0x3f &&& (0x1f &&& k) ||| (if c.fifo.length ≥ 64 then 0x80 &&& k else 0) |||
      (if c.fifo.length = 0 then 0x40 &&& k else 0) |||
      (if c.fifo.length > (c.fsk.rd 0x35 &&& 0x3f).toNat then 0x20 &&& k else 0) := by
  unfold Chip.flags2
  dsimp only
  rw [ite_or_mask, ite_or_mask, ite_or_mask, UInt8.and_assoc]

theorem flags2_stored (c : Chip) {k : UInt8} (h80 : 0x80 &&& k = 0) (h40 : 0x40 &&& k = 0) (h20 : 0x20 &&& k = 0)
    (h1f : 0x1f &&& k = k) : c.flags2 &&& k = c.fsk.rd 0x3f &&& k := by
  rw [flags2_and, h80, h40, h20, h1f, ite_self, ite_self, ite_self, UInt8.or_zero, UInt8.or_zero, UInt8.or_zero]

theorem flags2_level (c : Chip) : c.flags2 &&& 0x20 ≠ 0 ↔ c.fifo.length > (c.fsk.rd 0x35 &&& 0x3f).toNat := by
  rw [flags2_and]
  simp only [show (0x1f : UInt8) &&& 0x20 = 0 from rfl, show (0x80 : UInt8) &&& 0x20 = 0 from rfl,
    show (0x40 : UInt8) &&& 0x20 = 0 from rfl, ite_self, UInt8.and_zero, UInt8.or_zero, UInt8.zero_or]
  exact ite_ne_zero _ (by decide)
theorem flags2_empty (c : Chip) : c.flags2 &&& 0x40 ≠ 0 ↔ c.fifo.length = 0 := by
  rw [flags2_and]
  simp only [show (0x1f : UInt8) &&& 0x40 = 0 from rfl, show (0x80 : UInt8) &&& 0x40 = 0 from rfl,
    show (0x20 : UInt8) &&& 0x40 = 0 from rfl, ite_self, UInt8.and_zero, UInt8.or_zero, UInt8.zero_or]
  exact ite_ne_zero _ (by decide)
theorem flags2_full (c : Chip) : c.flags2 &&& 0x80 ≠ 0 ↔ c.fifo.length ≥ 64 := by
  rw [flags2_and]
  simp only [show (0x1f : UInt8) &&& 0x80 = 0 from rfl, show (0x40 : UInt8) &&& 0x80 = 0 from rfl,
    show (0x20 : UInt8) &&& 0x80 = 0 from rfl, ite_self, UInt8.and_zero, UInt8.or_zero, UInt8.zero_or]
  exact ite_ne_zero _ (by decide)

theorem crc_bit (x : UInt8) : (x &&& 0x02 ≠ 0x02) ↔ (x &&& 0x02 = 0) := by
  -- one bit: the masked byte is 0 or the mask
  have h : x &&& 0x02 = if x.toBitVec.getLsbD 1 then 0x02 else 0 := by
    apply UInt8.eq_of_toBitVec_eq
    rw [UInt8.toBitVec_and, apply_ite UInt8.toBitVec]
    exact BitVec.and_twoPow x.toBitVec 1
  rw [h]
  split <;> decide

theorem peek_flags2 (c : Chip) (hl : c.isLora = false) : c.peek 0x3f = c.flags2 := by
  simp [Chip.peek, hl]

end Sx
