import Sx.Model.DebugTool
/- Lemmas about the parser model of debug_registers (C20): bounds of the allocation, and the
   read-back of one printed value. -/
namespace Sx.Tool

theorem count_tail_le (r : List Char) : r.tail.count ',' ≤ r.count ',' := by
  cases r with
  | nil => simp
  | cons a t => simp [List.count_cons]

theorem count_cons_le (c : Char) (r : List Char) : r.count ',' ≤ (c :: r).count ',' := by
  simp [List.count_cons]

/-- as long as the allocation has room for one value per remaining `','` plus the final one, no
    store leaves it -/
theorem scan_no_oob (cap : Nat) (l : List Char) (cur : UInt8) (has : Bool) (buf : List UInt8)
    (h : buf.length + l.count ',' + 1 ≤ cap) : scan cap l cur has buf ≠ .oob := by
  fun_induction scan cap l cur has buf
  case case1 => intro e; cases e
  case case2 hn => simp at h; omega
  case case3 => intro e; cases e
  case case4 c r cur has buf hc ih => exact ih (by have := count_cons_le c r; omega)
  case case5 r cur has buf hlt hc ih =>
    apply ih
    simp [List.count_cons] at h ⊢
    omega
  case case6 r cur has buf hn hc => simp [List.count_cons] at h; omega
  case case7 c r cur has buf h1 h2 h3 ih =>
    exact ih (by have := count_tail_le r; have := count_cons_le c r; omega)
  case case8 c r cur has buf h1 h2 h3 d hd ih => exact ih (by have := count_cons_le c r; omega)
  case case9 => intro e; cases e

theorem hexDigit_facts : ∀ n : Fin 16,
    hexVal (hexDigit n.val) = some (UInt8.ofNat n.val) ∧ hexDigit n.val ≠ ' ' ∧ hexDigit n.val ≠ ':' ∧
    hexDigit n.val ≠ ',' ∧ hexDigit n.val ≠ 'x' := by decide

theorem byte_of_nibbles : ∀ b : UInt8, (0 : UInt8) * 16 + UInt8.ofNat (b.toNat / 16) = UInt8.ofNat (b.toNat / 16) ∧
    UInt8.ofNat (b.toNat / 16) * 16 + UInt8.ofNat (b.toNat % 16) = b := by
  intro b
  have := b.toNat_lt
  refine ⟨by simp, UInt8.toNat_inj.mp ?_⟩
  simp only [UInt8.toNat_add, UInt8.toNat_mul, UInt8.toNat_ofNat', UInt8.toNat_ofNat]
  omega

theorem scan_renderByte (cap : Nat) (b : UInt8) (rest : List Char) (buf : List UInt8)
    (hrest : rest.head? ≠ some 'x') :
    scan cap (renderByte b ++ rest) 0 false buf = scan cap rest b true buf := by
  have h1 := hexDigit_facts ⟨b.toNat / 16, by have := b.toNat_lt; omega⟩
  have h2 := hexDigit_facts ⟨b.toNat % 16, by omega⟩
  obtain ⟨v1, a1, a2, a3, a4⟩ := h1
  obtain ⟨v2, b1, b2, b3, b4⟩ := h2
  simp only at v1 a1 a2 a3 a4 v2 b1 b2 b3 b4
  have hb := byte_of_nibbles b
  unfold renderByte
  simp only [List.cons_append, List.nil_append]
  rw [scan]
  simp only [show ¬('0' = ' ' ∨ '0' = ':') by decide, show ¬('0' = ',') by decide, ↓reduceIte, List.head?_cons, true_and, List.tail_cons]
  rw [scan]
  have c1 : ¬(hexDigit (b.toNat / 16) = ' ' ∨ hexDigit (b.toNat / 16) = ':') := fun h => h.elim a1 a2
  have c2 : ¬(hexDigit (b.toNat / 16) = '0' ∧ (hexDigit (b.toNat % 16) :: rest).head? = some 'x') := by
    intro ⟨_, e⟩
    simp only [List.head?_cons, Option.some.injEq] at e
    exact b4 e
  rw [if_neg c1, if_neg a3, if_neg c2, v1]
  simp only [hb.1]
  rw [scan]
  have d1 : ¬(hexDigit (b.toNat % 16) = ' ' ∨ hexDigit (b.toNat % 16) = ':') := fun h => h.elim b1 b2
  have d2 : ¬(hexDigit (b.toNat % 16) = '0' ∧ rest.head? = some 'x') := fun h => hrest h.2
  rw [if_neg d1, if_neg b3, if_neg d2, v2]
  simp only [hb.2]

/-- a dump printed as the README prescribes is read back value by value, the last one included -/
theorem scan_render (cap : Nat) (bs : List UInt8) (buf : List UInt8) (hne : bs ≠ [])
    (hcap : buf.length + bs.length ≤ cap) :
    scan cap (render bs) 0 false buf = .ok (buf ++ bs) := by
  induction bs generalizing buf with
  | nil => exact absurd rfl hne
  | cons b r ih =>
    cases r with
    | nil =>
      show scan cap (renderByte b) 0 false buf = _
      have := scan_renderByte cap b [] buf (by simp)
      rw [List.append_nil] at this
      rw [this, scan]
      simp only [↓reduceIte]
      rw [if_pos (by simp at hcap; omega)]
    | cons b' r' =>
      show scan cap (renderByte b ++ ',' :: render (b' :: r')) 0 false buf = _
      rw [scan_renderByte cap b _ buf (by simp), scan]
      simp only [show ¬(',' = ' ' ∨ ',' = ':') by decide, ↓reduceIte]
      rw [if_pos (by simp at hcap; omega)]
      rw [ih (buf ++ [b]) (by simp) (by simp at hcap ⊢; omega)]
      simp

theorem count_renderByte (b : UInt8) : (renderByte b).count ',' = 0 := by
  have h1 := (hexDigit_facts ⟨b.toNat / 16, by have := b.toNat_lt; omega⟩).2.2.2.1
  have h2 := (hexDigit_facts ⟨b.toNat % 16, by omega⟩).2.2.2.1
  simp only at h1 h2
  unfold renderByte
  simp [List.count_cons, h1, h2]

theorem count_render (bs : List UInt8) : (render bs).count ',' = bs.length - 1 := by
  induction bs with
  | nil => rfl
  | cons b r ih =>
    cases r with
    | nil => show (renderByte b).count ',' = 0; exact count_renderByte b
    | cons b' r' =>
      show (renderByte b ++ ',' :: render (b' :: r')).count ',' = _
      rw [List.count_append, count_renderByte, List.count_cons, ih]
      simp

end Sx.Tool
