import Sx.Props.C15
/-
  Failed calls leave the handle as it was (used by C11).  `TX (x >>= g)` follows from `KeepH x`,
  `FS x` and `TX (g a)`: every public function of the driver other than the packet operations
  (`Api.isPacketOp`) reads and writes the chip first and updates the handle last.  The FSK/OOK
  transmit calls change at most the per-packet fields (`KeepC`).
-/
namespace Sx
open Sx.Model DM

/-- the two handles agree on everything but the per-packet fields (`packet`,
    `expected_packet_length`, `fsk_ook_packet_sent_received`) -/
def Handle.cfgEq (h h' : Handle) : Prop :=
  { h' with packet := h.packet, expected := h.expected, received := h.received } = h

theorem Handle.cfgEq_refl (h : Handle) : h.cfgEq h := rfl
theorem Handle.cfgEq_trans {a b c : Handle} (h1 : a.cfgEq b) (h2 : b.cfgEq c) : a.cfgEq c := by
  cases a; cases b; cases c
  simp only [Handle.cfgEq, Handle.mk.injEq] at *
  simp_all

structure DM.KeepC (x : DM α) : Prop where
  q : ∀ h f, (x h).fwp f (fun _ rh => h.cfgEq rh.2)

namespace DM
theorem KeepC_of_keepH {x : DM α} (hx : KeepH x) : KeepC x :=
  ⟨fun h f => Prog.fwp_mono _ _ _ _ (fun _ _ e => by rw [e]; exact Handle.cfgEq_refl _) (hx.q h f)⟩
theorem KeepC_bind {x : DM α} {g : α → DM β} (hx : KeepC x) (hg : ∀ a, KeepC (g a)) : KeepC (x >>= g) :=
  ⟨fun h f => fwp_bind_of (hx.q h f)
    (fun _ a _ e => Prog.fwp_mono _ _ _ _ (fun _ _ e2 => Handle.cfgEq_trans e e2) ((hg a).q _ _)) (fun _ _ _ e => e)⟩
theorem KeepC_modH (g : Handle → Handle) (hg : ∀ h : Handle, h.cfgEq (g h)) : KeepC (modH g) := ⟨fun h _ => hg h⟩
end DM

@[keep] theorem keepC_packetStore (i : Nat) (v : UInt8) : KeepC (packetStore i v) := by
  constructor
  intro h f
  unfold packetStore
  rw [fwp_bind']
  show Prog.fwp _ f _
  simp only [getH, Prog.fwp]
  split
  · exact rfl
  · trivial

@[keep] theorem keepC_packetCopy (i : Nat) (d : List UInt8) : KeepC (packetCopy i d) := by
  constructor
  intro h f
  unfold packetCopy
  rw [fwp_bind']
  show Prog.fwp _ f _
  simp only [getH, Prog.fwp]
  split
  · exact rfl
  · trivial

theorem KeepH_attempt {x : DM α} (hx : KeepH x) : KeepH (attempt x) := ⟨fun h f => by rw [fwp_attempt]; exact hx.q h f⟩

attribute [keep] keep_append

/-- one step of the structural proof that a function never changes the handle -/
macro "keep_step" : tactic => `(tactic| with_reducible first
  | intro _
  | apply KeepH_bind | apply KeepH_attempt | apply KeepH_ite
  | exact KeepH_pure _ | exact KeepH_fail _ | exact KeepH_getH | exact KeepH_rread _ | exact KeepH_sread _ _
  | exact KeepH_bread _ _ | exact KeepH_swrite _ _ | exact KeepH_bwrite _ _ | exact KeepH_rawbread _ _
  | exact KeepH_ub _ | exact KeepH_ofExcept _
  | assumption)

macro "keep_walk" : tactic => `(tactic| repeat (first | keep_step | split | dsimp only | simp only [keep] | dsimp only [model_body]))

theorem fs_checkModulation' (m : Nat) : FS (checkModulation m) := FS_of_FF (ff_checkModulation m)
theorem fs_getFrequency : FS getFrequency := FS_of_FF ff_getFrequency
@[keep] theorem keep_setFrequency (f : UInt64) : KeepH (setFrequency f) := by unfold setFrequency; keep_walk
theorem fs_reload : FS reloadLowDatarateOptimization := FS_of_FF ff_reload
theorem fs_txSetOcp (e : Bool) (m : UInt8) : FS (txSetOcp e m) := FS_of_FF (ff_txSetOcp e m)
@[keep] theorem keep_calibrateLoop (fuel : Nat) : KeepH (calibrateLoop fuel) := by
  induction fuel with
  | zero => unfold calibrateLoop; exact KeepH_ub _
  | succ n ih => unfold calibrateLoop; keep_walk

/-- the traversal for `TX`: a statement that keeps the handle and ends the call when a transfer fails
    may precede anything transactional (`TX_bind_keep`); the handle is updated last -/
macro "tx_walk" : tactic => `(tactic| repeat (first
  | with_reducible exact TX_pure _ | with_reducible exact TX_modH _ | with_reducible exact TX_modH_pure _ _
  | ((with_reducible refine TX_bind_keep ?_ ?_ ?_); (focus (keep_walk; done)); (focus (fs_walk; done)); intro _)
  | ((with_reducible apply TX_of_keepH); (focus (keep_walk; done)))
  | with_reducible apply TX_ite | split | dsimp only))

/-- the length is recorded only after the last read -/
theorem tx_header : TX readPayloadHeader := by unfold readPayloadHeader; tx_walk

theorem TX_bind_pure {α β : Type} {x : DM α} (g : α → β) (hx : TX x) : TX (x >>= fun a => (pure (g a) : DM β)) :=
  ⟨fun h => fwp_bind_of (hx.q h) (fun _ _ _ hq => hq) (fun _ _ _ hq => hq)⟩
/-- the calls whose purpose is to change per-packet state: handle creation, the interrupt handler,
    and the FSK/OOK transmit calls (which stage the frame in the handle before the first transfer) -/
def Api.isPacketOp : Api → Bool
  | .create | .irq | .fskOokTxSetForTransmission _ | .fskOokTxSetForTransmissionWithAddress _ _ | .fskOokTxStartBeacon _ _ => true
  | _ => false

theorem tx_api (cap fuel : Nat) (a : Api) (hp : a.isPacketOp = false) : TX (Api.prog cap fuel a) := by
  cases a
  case create => cases hp
  case irq => cases hp
  case fskOokTxSetForTransmission d => cases hp
  case fskOokTxSetForTransmissionWithAddress d x => cases hp
  case fskOokTxStartBeacon d i => cases hp
  all_goals refine TX_bind_pure _ ?_
  case setOpmod o m => exact C15_handle_unchanged_on_failure o m
  case rxGetPacketRssi =>
    unfold Model.rxGetPacketRssi
    refine TX_bind_keep KeepH_getH FS_getH ?_
    intro h
    apply TX_ite
    · apply TX_of_keepH; keep_walk
    · split
      · apply TX_ite
        · exact TX_of_keepH (KeepH_fail _)
        · exact TX_modH_pure _ _
      · exact TX_of_keepH (KeepH_fail _)
  case setFrequency => unfold Model.setFrequency; tx_walk
  case getFrequency => unfold Model.getFrequency; tx_walk
  case loraGetBandwidth => unfold Model.loraGetBandwidth; tx_walk
  case loraSetLowDatarateOptimization => unfold Model.loraSetLowDatarateOptimization; tx_walk
  case loraRxGetPacketSnr => unfold Model.loraRxGetPacketSnr; tx_walk
  case txSetOcp => unfold Model.txSetOcp; tx_walk
  -- the other calls: unfold the function behind the call where `api_body` has it, and traverse
  all_goals first | (dsimp only [api_body]; tx_walk) | tx_walk

macro "keepC_walk" : tactic => `(tactic| repeat (first
  | intro _
  | with_reducible apply KeepC_bind
  | ((with_reducible apply KeepC_of_keepH); (focus (keep_walk; done)))
  | split | dsimp only | simp only [keep]))

@[keep] theorem keepC_txWithRemaining (n : UInt16) : KeepC (fskOokTxWithRemaining n) := by
  unfold fskOokTxWithRemaining
  refine KeepC_bind (KeepC_modH _ fun _ => rfl) fun _ => ?_
  keepC_walk
@[keep] theorem keepC_fskTx (d : List UInt8) : KeepC (fskOokTxSetForTransmission d) := by
  unfold fskOokTxSetForTransmission; keepC_walk
theorem keepC_fskTxAddr (d : List UInt8) (a : UInt8) : KeepC (fskOokTxSetForTransmissionWithAddress d a) := by
  unfold fskOokTxSetForTransmissionWithAddress; keepC_walk
theorem keepC_beacon (d : List UInt8) (i : Nat) : KeepC (fskOokTxStartBeacon d i) := by
  unfold fskOokTxStartBeacon; keepC_walk

theorem cfg_api (cap fuel : Nat) (a : Api) (hirq : a.isIrq = false) (hc : a ≠ .create) (h : Handle) :
    (Api.prog cap fuel a h).fwp false (fun failed rh => failed = true → h.cfgEq rh.2) := by
  by_cases hp : a.isPacketOp = false
  · refine Prog.fwp_mono _ _ _ _ ?_ ((tx_api cap fuel a hp).q h)
    intro f' rh hq e
    rw [hq e]; exact Handle.cfgEq_refl _
  · have wrap : ∀ {x : DM Unit}, KeepC x →
        ((do x; pure Out.none : DM Out) h).fwp false (fun failed rh => failed = true → h.cfgEq rh.2) :=
      fun hx => Prog.fwp_mono _ _ _ _ (fun _ _ e _ => e)
        ((KeepC_bind hx fun _ => KeepC_of_keepH (KeepH_pure _)).q h false)
    cases a
    case create => exact absurd rfl hc
    case irq => cases hirq
    case fskOokTxSetForTransmission d => exact wrap (keepC_fskTx d)
    case fskOokTxSetForTransmissionWithAddress d x => exact wrap (keepC_fskTxAddr d x)
    case fskOokTxStartBeacon d i => exact wrap (keepC_beacon d i)
    all_goals exact (hp rfl).elim

end Sx
